-- Root of the `OrqModel` library.
import OrqModel.Enum
import OrqModel.Generated.Tables
import OrqModel.Generated.Sites
import OrqModel.Model.Val
import OrqModel.Model.Spec
import OrqModel.Model.State
import OrqModel.Model.Conductor
import OrqModel.Model.Eval
import OrqModel.Model.Ops
import OrqModel.Model.Values
import OrqModel.Proofs.Footprint
import OrqModel.Proofs.Keep
import OrqModel.Proofs.Reach
import OrqModel.Proofs.PerFunction
import OrqModel.Properties.Status
import OrqModel.Properties.Next
import OrqModel.Properties.Join
import OrqModel.Properties.Errors
import OrqModel.Properties.Items
import OrqModel.Properties.Compose
import OrqModel.Properties.Values
import OrqModel.Properties.Sites
import OrqModel.Properties.History
import OrqModel.Properties.Rerun
import OrqModel.Properties.Params
import OrqModel.Properties.ComposeComplete
import OrqModel.Properties.Retry
import OrqModel.Properties.Query
import OrqModel.Properties.Frozen
import OrqModel.Properties.ErrLog
import OrqModel.Properties.Justified
import OrqModel.Properties.Keys
import OrqModel.Properties.NextTotal
import OrqModel.Properties.Truth
import OrqModel.Properties.Ancestry
import OrqModel.Properties.Frame
import OrqModel.Properties.Edges
import OrqModel.Properties.Remediation
import OrqModel.Properties.MergeOrder
import OrqModel.Properties.RenderFail
import OrqModel.Properties.Shorthand
