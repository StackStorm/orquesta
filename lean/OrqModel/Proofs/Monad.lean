/-
Running the model's monad: what `m c` is when the head of `m` is a primitive (forward), what a
normal return of a composite says about its parts (inversion), and two equations of `foldM'`.
-/
import OrqModel.Model.Conductor

namespace Orq

namespace M

variable {α β : Type}

theorem bind_run (m : M α) (f : α → M β) (c : Cond) :
    (m >>= f) c = match m c with
      | (.ok a, c1) => f a c1
      | (.error e, c1) => (.error e, c1) := rfl

theorem bind_run_ok {m : M α} {c c1 : Cond} {a : α} (f : α → M β) (h : m c = (.ok a, c1)) :
    (m >>= f) c = f a c1 := by
  rw [bind_run, h]

theorem run_eq {m : M α} {c : Cond} {a : α} (h : (m c).1 = .ok a) : m c = (.ok a, (m c).2) :=
  Prod.ext h rfl

theorem get_bind (f : Cond → M β) (c : Cond) : (get >>= f) c = f c c := rfl

theorem liftExcept_bind (x : Except Err α) (f : α → M β) (c : Cond) :
    (liftExcept x >>= f) c = match x with
      | .ok a => f a c
      | .error e => (.error e, c) := by
  cases x <;> rfl

theorem liftOpt_bind (o : Option α) (e : Err) (f : α → M β) (c : Cond) :
    (liftOpt o e >>= f) c = match o with
      | some a => f a c
      | none => (.error e, c) := by
  cases o <;> rfl

theorem liftExcept_run (x : Except Err α) (c : Cond) :
    liftExcept x c = match x with
      | .ok a => (.ok a, c)
      | .error e => (.error e, c) := by
  cases x <;> rfl

theorem bind_error {m : M α} {f : α → M β} {c c' : Cond} {e : Err} (h : (m >>= f) c = (.error e, c')) :
    m c = (.error e, c') ∨ ∃ a c1, m c = (.ok a, c1) ∧ f a c1 = (.error e, c') := by
  rw [bind_run] at h
  cases hm : m c with
  | mk r c1 =>
    rw [hm] at h
    cases r with
    | ok a => exact .inr ⟨a, c1, rfl, h⟩
    | error e1 =>
      have h' : ((Except.error e1 : Except Err β), c1) = (.error e, c') := h
      cases h'
      exact .inl rfl

end M

theorem M.bind_ok {α β} {m : M α} {f : α → M β} {c c' : Cond} {b : β}
    (h : (m >>= f) c = (.ok b, c')) : ∃ a c1, m c = (.ok a, c1) ∧ f a c1 = (.ok b, c') := by
  rw [M.bind_run] at h
  cases hm : m c with
  | mk r c1 =>
    rw [hm] at h
    cases r with
    | ok a => exact ⟨a, c1, rfl, h⟩
    | error e => cases h

theorem get_ok {c a c' : Cond} (h : M.get c = (.ok a, c')) : c = a ∧ c = c' := by
  cases h; exact ⟨rfl, rfl⟩

theorem pure_ok {α} {a b : α} {c c' : Cond} (h : (pure a : M α) c = (.ok b, c')) : a = b ∧ c = c' := by
  cases h; exact ⟨rfl, rfl⟩

theorem modifySt_ok {f : WState → WState} {c c' : Cond} {u : Unit} (h : M.modifySt f c = (.ok u, c')) :
    c' = { c with st := f c.st } := by
  cases h; rfl

theorem liftOpt_ok {α} {o : Option α} {e : Err} {c c' : Cond} {a : α}
    (h : liftOpt o e c = (.ok a, c')) : o = some a ∧ c = c' := by
  cases o <;> cases h
  exact ⟨rfl, rfl⟩

theorem liftExcept_ok {α} {x : Except Err α} {c c' : Cond} {a : α} (h : M.liftExcept x c = (.ok a, c')) :
    x = .ok a ∧ c = c' := by
  cases x <;> cases h
  exact ⟨rfl, rfl⟩

theorem tryCatch_ok {α} {m : M α} {h : Err → M α} {c c' : Cond} {a : α} (hrun : M.tryCatch m h c = (.ok a, c')) :
    m c = (.ok a, c') ∨ ∃ e c1, m c = (.error e, c1) ∧ h e c1 = (.ok a, c') := by
  unfold M.tryCatch at hrun
  cases hm : m c with
  | mk r c1 =>
    rw [hm] at hrun
    cases r with
    | ok b => cases hrun; exact .inl rfl
    | error e => exact .inr ⟨e, c1, rfl, hrun⟩

theorem tryCatch_error {α} {m : M α} {h : Err → M α} {c c' : Cond} {e : Err}
    (hrun : M.tryCatch m h c = (.error e, c')) : ∃ e1 c1, m c = (.error e1, c1) ∧ h e1 c1 = (.error e, c') := by
  unfold M.tryCatch at hrun
  cases hm : m c with
  | mk r c1 =>
    rw [hm] at hrun
    cases r with
    | ok b => cases hrun
    | error e1 => exact ⟨e1, c1, rfl, hrun⟩

theorem Except.bind_ok {ε α β} {x : Except ε α} {f : α → Except ε β} {b : β} (h : x >>= f = .ok b) :
    ∃ a, x = .ok a ∧ f a = .ok b := by
  cases x with
  | error e => cases h
  | ok a => exact ⟨a, rfl, h⟩

theorem M.foldM'_map {α β γ} (g : γ → α) (f : β → α → M β) (l : List γ) (b : β) :
    M.foldM' (l.map g) b f = M.foldM' l b fun b a => f b (g a) := by
  induction l generalizing b with
  | nil => rfl
  | cons x xs ih => simp only [List.map_cons, M.foldM', ih]

theorem M.foldM'_append {α β} (f : β → α → M β) (pre post : List α) (b : β) :
    M.foldM' (pre ++ post) b f = (M.foldM' pre b f >>= fun b1 => M.foldM' post b1 f) := by
  induction pre generalizing b with
  | nil => rfl
  | cons x xs ih =>
    funext c
    show (f b x >>= fun b1 => M.foldM' (xs ++ post) b1 f) c = ((f b x >>= fun b1 => M.foldM' xs b1 f) >>= _) c
    simp only [ih, M.bind_run]
    cases f b x c with
    | mk r c1 => cases r <;> rfl

end Orq
