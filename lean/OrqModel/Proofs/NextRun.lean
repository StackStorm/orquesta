/-
The closed form of `get_next_tasks`.  `get_task` and `_evaluate_task_actions` are pure functions
(`renderTask`, `windowOf`, `normItems`) behind thin monadic wrappers, so one staged entry of the
query is a pure function of the state (`entryOk`): it either yields an offer and the item statuses
it records, or logs an error.  Everything the development says about offers is read off `entryOk`.
-/
import OrqModel.Proofs.Monad
import OrqModel.Proofs.StateLemmas
import OrqModel.Proofs.Rel

namespace Orq

variable (E : Evaluator)

theorem renderTask_ok {ev : Expr → EvalCtx → Option Val} {ts : TaskSpec} {vars : Val.Dict} {k : TaskKey}
    {o : Offer} (h : renderTask ev ts vars k = .ok o) : o.id = k.1 ∧ o.route = k.2 ∧ o.ctx = vars := by
  unfold renderTask at h
  obtain ⟨actions, -, h⟩ := Except.bind_ok h
  obtain ⟨delay, -, h⟩ := Except.bind_ok h
  split at h
  · cases h; exact ⟨rfl, rfl, rfl⟩
  · obtain ⟨conc, -, h⟩ := Except.bind_ok h
    cases h; exact ⟨rfl, rfl, rfl⟩

theorem windowOf_ok {o o' : Offer} {items : List Status} (h : windowOf o items = .ok o') :
    o'.id = o.id ∧ o'.route = o.route ∧ o'.ctx = o.ctx ∧ o'.itemsCount = o.itemsCount ∧ o'.delay = o.delay := by
  unfold windowOf at h
  split at h <;> cases h <;> exact ⟨rfl, rfl, rfl, rfl, rfl⟩

/-- the delay `get_next_tasks` attaches to the offer of a re-staged (retried) entry -/
def retryDelayOf (r : RetryState) : Val :=
  match r.delay with
  | .val v => if v.truthy then v else .int 0
  | .expr _ => .str "<expr>"
  | .none_ => .int 0

theorem withRetryDelay_eq (sx : Staged) (o : Offer) :
    withRetryDelay sx o = { o with delay := match sx.retry with
      | some r => some (retryDelayOf r)
      | none => o.delay } := by
  unfold withRetryDelay retryDelayOf
  cases sx.retry <;> rfl

/-- the evaluator as `get_task` calls it: with the workflow state in the context (`__state`) -/
def evAt (st : WState) : Expr → EvalCtx → Option Val := fun e ec => E.eval e { ec with st := some st }

/-- the pure content of `get_task` -/
def renderOf (c : Cond) (k : TaskKey) : Except Err Offer :=
  match c.st.taskContext (taskCtxIdxs c.st k) with
  | .error e => .error e
  | .ok vars =>
    match c.spec.getTask? k.1 with
    | none => .error .keyError
    | some ts => renderTask (evAt E c.st) ts vars k

theorem getTask_run (k : TaskKey) (c : Cond) :
    getTask E k c = (match renderOf E c k with
      | .ok o => (.ok o, c)
      | .error e => (.error e, c)) := by
  unfold getTask renderOf
  rw [M.get_bind, M.liftExcept_bind]
  cases c.st.taskContext (taskCtxIdxs c.st k) with
  | error e => rfl
  | ok vars =>
    dsimp only
    rw [M.liftOpt_bind]
    cases c.spec.getTask? k.1 with
    | none => rfl
    | some ts =>
      show M.liftExcept (renderTask (evAt E c.st) ts vars k) c = (match renderTask (evAt E c.st) ts vars k with
        | .ok o => (.ok o, c)
        | .error e => (.error e, c))
      cases renderTask (evAt E c.st) ts vars k <;> rfl

theorem renderOf_ok {c : Cond} {k : TaskKey} {o : Offer} (h : renderOf E c k = .ok o) :
    o.id = k.1 ∧ o.route = k.2 ∧ c.st.taskContext (taskCtxIdxs c.st k) = .ok o.ctx := by
  unfold renderOf at h
  split at h
  · cases h
  · next vars hv =>
    split at h
    · cases h
    · obtain ⟨h1, h2, h3⟩ := renderTask_ok h
      exact ⟨h1, h2, by rw [hv, h3]⟩

theorem renderOf_key {c : Cond} {k : TaskKey} {o : Offer} (h : renderOf E c k = .ok o) : (o.id, o.route) = k :=
  Prod.ext (renderOf_ok E h).1 (renderOf_ok E h).2.1

/-- the number of items the task at `k` renders with -/
def countOf (c : Cond) (k : TaskKey) : Option Nat :=
  match renderOf E c k with
  | .ok o => o.itemsCount
  | .error _ => none

theorem countOf_of_render {c : Cond} {k : TaskKey} {o : Offer} (h : renderOf E c k = .ok o) :
    countOf E c k = o.itemsCount := by
  unfold countOf
  rw [h]

def setItems (st : WState) (k : TaskKey) (items : List Status) : WState :=
  st.updateStaged k fun x => { x with items := some items }

/-- the test at the end of the loop body of `get_next_tasks`: a task is offered if it has actions, or
    is a with-items task over an empty list -/
def pickOffer (o : Offer) : Option Offer :=
  if !o.actions.isEmpty then some o else if o.itemsCount == some 0 then some o else none

/-- the outcome of `nextTaskFor` when nothing raises: the offer (if any) and the item statuses it
    records in the staged entry -/
def entryOk (c : Cond) (sx : Staged) : Option (Option Offer × Option (List Status)) :=
  match renderOf E c (sx.id, sx.route) with
  | .error _ => none
  | .ok o =>
    match o.itemsCount with
    | none => some (pickOffer (withRetryDelay sx o), none)
    | some n =>
      match c.st.getStaged? (o.id, o.route) with
      | none => none
      | some x =>
        match windowOf o (normItems x.items n) with
        | .error _ => none
        | .ok o' => some (pickOffer (withRetryDelay sx o'), some (normItems x.items n))

/-- the state after one entry rendered: the item statuses it records, if any, are in its staged entry -/
def applyItems (c : Cond) (k : TaskKey) : Option (List Status) → Cond
  | none => c
  | some items => { c with st := setItems c.st k items }

theorem evaluateTaskActions_run (o : Offer) (c : Cond) :
    evaluateTaskActions o c = (match o.itemsCount with
      | none => (.ok o, c)
      | some n => match c.st.getStaged? (o.id, o.route) with
        | none => (.error .typeError, c)
        | some x => M.liftExcept (windowOf o (normItems x.items n))
            { c with st := setItems c.st (o.id, o.route) (normItems x.items n) }) := by
  unfold evaluateTaskActions
  cases o.itemsCount with
  | none => rfl
  | some n =>
    dsimp only
    rw [M.get_bind]
    cases c.st.getStaged? (o.id, o.route) <;> rfl

theorem entryOk_some {c : Cond} {sx : Staged} {r : Option Offer} {it : Option (List Status)}
    (h : entryOk E c sx = some (r, it)) :
    ∃ o o', renderOf E c (sx.id, sx.route) = .ok o ∧ r = pickOffer (withRetryDelay sx o') ∧
      ((o.itemsCount = none ∧ o' = o ∧ it = none) ∨
       ∃ n x, o.itemsCount = some n ∧ c.st.getStaged? (sx.id, sx.route) = some x ∧
         windowOf o (normItems x.items n) = .ok o' ∧ it = some (normItems x.items n)) := by
  unfold entryOk at h
  split at h
  · cases h
  · next o ho =>
    have hk := renderOf_key E ho
    rw [hk] at h
    split at h
    · next hn => cases h; exact ⟨o, o, ho, rfl, .inl ⟨hn, rfl, rfl⟩⟩
    · next n hn =>
      split at h
      · cases h
      · next x hx =>
        split at h
        · cases h
        · next o' hw => cases h; exact ⟨o, o', ho, rfl, .inr ⟨n, x, hn, hx, hw, rfl⟩⟩

theorem entryOk_offer {c : Cond} {sx : Staged} {o : Offer} {it : Option (List Status)}
    (h : entryOk E c sx = some (some o, it)) :
    o.id = sx.id ∧ o.route = sx.route ∧
    c.st.taskContext (taskCtxIdxs c.st (sx.id, sx.route)) = .ok o.ctx ∧
    ∀ r, sx.retry = some r → o.delay = some (retryDelayOf r) := by
  obtain ⟨o1, o2, hr, hp, hw⟩ := entryOk_some E h
  have h2 : o2.id = o1.id ∧ o2.route = o1.route ∧ o2.ctx = o1.ctx := by
    rcases hw with ⟨_, rfl, _⟩ | ⟨n, x, _, _, hw, _⟩
    · exact ⟨rfl, rfl, rfl⟩
    · exact ⟨(windowOf_ok hw).1, (windowOf_ok hw).2.1, (windowOf_ok hw).2.2.1⟩
  have ho : o = withRetryDelay sx o2 := by
    unfold pickOffer at hp
    split at hp
    · cases hp; rfl
    · split at hp <;> cases hp
      rfl
  obtain ⟨h1, h1', h1''⟩ := renderOf_ok E hr
  rw [ho, withRetryDelay_eq]
  refine ⟨h2.1.trans h1, h2.2.1.trans h1', by rw [h1'']; exact congrArg _ h2.2.2.symm, ?_⟩
  intro r hr
  simp only [hr]

/-- which staged entries `get_next_tasks` looks at -/
theorem nextTodo_eq (st : WState) : nextTodo st =
    if st.status.isRunning then st.readyStaged
    else if st.status = .failed then st.readyStaged.filter (·.runOnFail) else [] := by
  unfold nextTodo
  by_cases hf : st.status = .failed
  · have hb : (Status.failed == Status.failed) = true := rfl
    simp only [hf, Status.isRunning, hb, if_true]
    cases h : (st.readyStaged.filter (·.runOnFail)) <;> simp
  · have : (st.status == Status.failed) = false := by
      cases hs : st.status <;> first | rfl | exact absurd hs hf
    simp only [this, hf]
    cases st.status.isRunning <;> simp

theorem pick_run (o : Offer) (c : Cond) :
    (if !o.actions.isEmpty then (pure (some o, false) : M (Option Offer × Bool))
      else if o.itemsCount == some 0 then pure (some o, false) else pure (none, false)) c =
      (.ok (pickOffer o, false), c) := by
  unfold pickOffer
  split
  · rfl
  · split <;> rfl

theorem nextTaskFor_ok (c : Cond) (sx : Staged) (r : Option Offer) (it : Option (List Status))
    (h : entryOk E c sx = some (r, it)) :
    nextTaskFor E sx c = (.ok (r, false), applyItems c (sx.id, sx.route) it) := by
  obtain ⟨o, o', hr, rfl, hw⟩ := entryOk_some E h
  have hk := renderOf_key E hr
  unfold nextTaskFor M.tryCatch
  rw [M.bind_run_ok _ (by rw [getTask_run, hr]), M.bind_run, evaluateTaskActions_run, hk]
  rcases hw with ⟨hn, rfl, rfl⟩ | ⟨n, x, hn, hx, hw, rfl⟩
  · simp only [hn, pick_run]
    rfl
  · simp only [hn, hx, hw, M.liftExcept_run, pick_run]
    rfl

theorem nextTaskFor_fail (c : Cond) (sx : Staged) (h : entryOk E c sx = none) :
    ∃ e c1, nextTaskFor E sx c = (.ok (none, true), (logError e (some sx.id) (some sx.route) none c1).2) := by
  have hh : ∀ (e : Err) (c1 : Cond), ∃ e' c1',
      (logError e.className (some sx.id) (some sx.route) >>= fun _ => (pure (none, true) : M (Option Offer × Bool))) c1 =
        (.ok (none, true), (logError e' (some sx.id) (some sx.route) none c1').2) := fun e c1 => ⟨_, c1, rfl⟩
  unfold entryOk at h
  unfold nextTaskFor M.tryCatch
  rw [M.bind_run, getTask_run]
  cases hr : renderOf E c (sx.id, sx.route) with
  | error e => exact hh _ _
  | ok o =>
    rw [hr] at h
    dsimp only at h ⊢
    rw [M.bind_run, evaluateTaskActions_run]
    cases hn : o.itemsCount with
    | none => rw [hn] at h; cases h
    | some n =>
      rw [hn] at h
      dsimp only at h ⊢
      cases hx : c.st.getStaged? (o.id, o.route) with
      | none => exact hh _ _
      | some x =>
        rw [hx] at h
        dsimp only at h ⊢
        cases hw : windowOf o (normItems x.items n) with
        | error e => exact hh _ _
        | ok o' => rw [hw] at h; cases h

def pushOffer (acc : List Offer) (r : Option Offer) : List Offer :=
  match r with
  | some o => acc ++ [o]
  | none => acc

/-- the body of the loop in the model's `nextFrom`, word for word, so that `nextFrom_eq` holds by `rfl` -/
def loopBody (acc : List Offer × Bool) (sx : Staged) : M (List Offer × Bool) := do
  let (o, f) ← nextTaskFor E sx
  pure (match o with | some o => acc.1 ++ [o] | none => acc.1, acc.2 || f)

def nextLoop (l : List Staged) (acc : List Offer × Bool) : M (List Offer × Bool) := M.foldM' l acc (loopBody E)

theorem nextFrom_eq (todo : List Staged) :
    nextFrom E todo = (nextLoop E todo ([], false) >>= fun p =>
      if p.2 then do failOnError; pure [] else pure (sortOffers p.1)) := rfl

theorem nextFrom_ok {todo : List Staged} {c c' : Cond} {offers : List Offer}
    (h : nextFrom E todo c = (.ok offers, c')) :
    ∃ offs failed c1, nextLoop E todo ([], false) c = (.ok (offs, failed), c1) ∧
      (failed = true → offers = []) ∧ (failed = false → offers = sortOffers offs ∧ c' = c1) := by
  rw [nextFrom_eq] at h
  obtain ⟨⟨offs, failed⟩, c1, hloop, h1⟩ := M.bind_ok h
  refine ⟨offs, failed, c1, hloop, ?_⟩
  cases failed with
  | true =>
    obtain ⟨_, _, _, h2⟩ := M.bind_ok (m := failOnError) h1
    cases h2
    exact ⟨fun _ => rfl, nofun⟩
  | false => cases h1; exact ⟨nofun, fun _ => ⟨rfl, rfl⟩⟩

theorem nextFrom_ok_ne {todo : List Staged} {c c' : Cond} {offers : List Offer}
    (h : nextFrom E todo c = (.ok offers, c')) (hr : offers ≠ []) :
    ∃ offs, nextLoop E todo ([], false) c = (.ok (offs, false), c') ∧ offers = sortOffers offs := by
  obtain ⟨offs, failed, c1, hloop, h1⟩ := nextFrom_ok E h
  cases failed with
  | true => exact absurd (h1.1 rfl) hr
  | false => obtain ⟨rfl, rfl⟩ := h1.2 rfl; exact ⟨offs, hloop, rfl⟩

theorem loopBody_ok (acc : List Offer × Bool) (sx : Staged) (c : Cond) (r : Option Offer)
    (it : Option (List Status)) (h : entryOk E c sx = some (r, it)) :
    loopBody E acc sx c = (.ok (pushOffer acc.1 r, acc.2), applyItems c (sx.id, sx.route) it) := by
  unfold loopBody
  rw [M.bind_run_ok _ (nextTaskFor_ok E c sx r it h)]
  cases r <;> simp only [pure, M.pure', Bool.or_false, pushOffer]

theorem loopBody_cases (acc : List Offer × Bool) (sx : Staged) (c : Cond) :
    (∃ c', entryOk E c sx = none ∧ loopBody E acc sx c = (.ok (acc.1, true), c')) ∨
    ∃ r it, entryOk E c sx = some (r, it) ∧
      loopBody E acc sx c = (.ok (pushOffer acc.1 r, acc.2), applyItems c (sx.id, sx.route) it) := by
  cases he : entryOk E c sx with
  | none =>
    obtain ⟨e, c1, h1⟩ := nextTaskFor_fail E c sx he
    unfold loopBody
    rw [M.bind_run_ok _ h1]
    exact .inl ⟨_, rfl, by simp only [Bool.or_true]; rfl⟩
  | some q => exact .inr ⟨q.1, q.2, rfl, loopBody_ok E acc sx c q.1 q.2 he⟩

theorem nextLoop_flag (l : List Staged) (acc : List Offer × Bool) (c c1 : Cond) (p : List Offer × Bool)
    (h : nextLoop E l acc c = (.ok p, c1)) (ha : acc.2 = true) : p.2 = true := by
  induction l generalizing acc c with
  | nil => cases h; exact ha
  | cons x xs ih =>
    obtain ⟨b, c2, hb, h2⟩ := M.bind_ok (m := loopBody E acc x) h
    apply ih b c2 h2
    obtain ⟨c', _, hc'⟩ | ⟨r, it, _, hc'⟩ := loopBody_cases E acc x c <;> rw [hc'] at hb <;> cases hb
    · rfl
    · exact ha

theorem nextLoop_cons_ok {x : Staged} {xs : List Staged} {acc : List Offer × Bool} {c c' : Cond} {offers : List Offer}
    (h : nextLoop E (x :: xs) acc c = (.ok (offers, false), c')) :
    ∃ r it, entryOk E c x = some (r, it) ∧
      nextLoop E xs (pushOffer acc.1 r, acc.2) (applyItems c (x.id, x.route) it) = (.ok (offers, false), c') := by
  obtain ⟨b, c2, hb, h2⟩ := M.bind_ok (m := loopBody E acc x) h
  obtain ⟨c', _, hc'⟩ | ⟨r, it, he, hc'⟩ := loopBody_cases E acc x c <;> rw [hc'] at hb <;> cases hb
  · cases nextLoop_flag E xs _ _ _ _ h2 rfl
  · exact ⟨r, it, he, h2⟩

theorem nextLoop_offers {P : Pre} (hP : ∀ sx, Rel P (nextTaskFor E sx)) (l : List Staged) (acc : List Offer × Bool)
    (c c' : Cond) (offers : List Offer) (h : nextLoop E l acc c = (.ok (offers, false), c')) :
    ∀ o ∈ offers, o ∈ acc.1 ∨ ∃ sx ∈ l, ∃ c1 it, P.R c c1 ∧ entryOk E c1 sx = some (some o, it) := by
  induction l generalizing acc c with
  | nil => cases h; exact fun o ho => .inl ho
  | cons x xs ih =>
    obtain ⟨r, it, he, h2⟩ := nextLoop_cons_ok E h
    have hc2 := (hP x).run c
    rw [nextTaskFor_ok E c x r it he] at hc2
    intro o ho
    rcases ih _ _ h2 o ho with h3 | ⟨sx, hsx, c1, it1, h3, h4⟩
    · cases r with
      | none => exact .inl h3
      | some o1 =>
        rcases List.mem_append.mp h3 with h3 | h3
        · exact .inl h3
        · cases List.mem_singleton.mp h3
          exact .inr ⟨x, List.mem_cons_self, c, it, P.refl c, he⟩
    · exact .inr ⟨sx, List.mem_cons_of_mem _ hsx, c1, it1, P.trans hc2 h3, h4⟩

theorem insOffer_perm (x : Offer) (l : List Offer) : (insOffer x l).Perm (x :: l) := by
  induction l with
  | nil => exact List.Perm.refl _
  | cons y ys ih =>
    unfold insOffer
    split
    · exact List.Perm.refl _
    · exact (List.Perm.cons y ih).trans (List.Perm.swap x y ys)

theorem mem_insOffer (x : Offer) (l : List Offer) (o : Offer) : o ∈ insOffer x l ↔ o = x ∨ o ∈ l := by
  rw [(insOffer_perm x l).mem_iff, List.mem_cons]

theorem mem_sortOffers (l : List Offer) (o : Offer) : o ∈ sortOffers l ↔ o ∈ l := by
  simpa only [sortOffers, List.append_nil] using (foldl_insert_perm insOffer_perm l []).mem_iff (a := o)

/-- Where offers come from: every task `nextFrom` returns is the offer of one of the entries it
    was given, rendered in a state the call passed through (`P`-related to the first, for any
    preorder `P` the rendering of one entry respects) -/
theorem nextFrom_offers {P : Pre} (hP : ∀ sx, Rel P (nextTaskFor E sx)) (todo : List Staged) (c c' : Cond)
    (offers : List Offer) (h : nextFrom E todo c = (.ok offers, c')) :
    ∀ o ∈ offers, ∃ sx ∈ todo, ∃ c1 it, P.R c c1 ∧ entryOk E c1 sx = some (some o, it) := by
  intro o ho
  obtain ⟨offs, hloop, rfl⟩ := nextFrom_ok_ne E h (List.ne_nil_of_mem ho)
  rcases nextLoop_offers E hP todo _ c _ offs hloop o ((mem_sortOffers offs o).mp ho) with h2 | h2
  · cases h2
  · exact h2

theorem nextFrom_delay (todo : List Staged) (c c' : Cond) (offers : List Offer)
    (h : nextFrom E todo c = (.ok offers, c')) :
    ∀ o ∈ offers, ∃ sx ∈ todo, sx.id = o.id ∧ sx.route = o.route ∧
      ∀ r, sx.retry = some r → o.delay = some (retryDelayOf r) := by
  intro o ho
  obtain ⟨sx, hsx, c1, it, _, he⟩ := nextFrom_offers E (fun _ => Rel.top _) todo c c' offers h o ho
  obtain ⟨h1, h2, _, h4⟩ := entryOk_offer E he
  exact ⟨sx, hsx, h1.symm, h2.symm, h4⟩

end Orq
