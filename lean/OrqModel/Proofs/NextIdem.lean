/-
C19: asking for the next tasks twice gives the same answer and leaves the state as the first call
left it (when the first call returned tasks, i.e. did not fail the workflow on a rendering error),
for every evaluator that cannot see the `items` bookkeeping of the staging area.

One entry of the query (`entryOk`) acts on the `items` of its own staged entry by
`I ↦ normItems I n`, which is idempotent, and reads them only through `normItems · n`.  On the
order `Le` ("some entries normalised") it is therefore monotone, increasing and saturating: the
second pass reads the same answers and writes nothing.
-/
import OrqModel.Proofs.Query

namespace Orq

variable (E : Evaluator)

def keyOf (x : Staged) : TaskKey := (x.id, x.route)

def itemsAt (st : WState) (k : TaskKey) : Option (List Status) := (st.getStaged? k).bind (·.items)

theorem itemsAt_of_getStaged {st : WState} {k : TaskKey} {x : Staged} (h : st.getStaged? k = some x) :
    itemsAt st k = x.items := by
  unfold itemsAt
  rw [h]
  rfl

theorem itemsAt_setItems (st : WState) (k k' : TaskKey) (items : List Status) :
    itemsAt (setItems st k items) k' =
      if k' = k then (st.getStaged? k).map fun _ => items else itemsAt st k' := by
  unfold itemsAt setItems
  split
  · next h =>
    rw [h, WState.getStaged?_updateStaged_self]
    · cases st.getStaged? k <;> rfl
    · exact fun _ => ⟨rfl, rfl⟩
  · next h =>
    rw [WState.getStaged?_updateStaged_ne _ st h]
    exact fun _ => ⟨rfl, rfl⟩

theorem setItems_noop (st : WState) (k : TaskKey) (items : List Status)
    (h : itemsAt st k = some items) : setItems st k items = st := by
  refine WState.updateStaged_eq_self fun x hx => ?_
  rw [itemsAt_of_getStaged hx] at h
  cases x
  cases h
  rfl

/-- the evaluator cannot see the `items` bookkeeping of the staging area (the functions of the
    expression languages read task records, the current task and item, never the staging area) -/
def Evaluator.ItemsBlind (E : Evaluator) : Prop :=
  ∀ st st', SameButItems st st' → ∀ e (ec : EvalCtx),
    E.eval e { ec with st := some st' } = E.eval e { ec with st := some st }

theorem renderOf_congr (hE : E.ItemsBlind) {c c' : Cond} (hs : c'.spec = c.spec)
    (h : SameButItems c.st c'.st) (k : TaskKey) : renderOf E c' k = renderOf E c k := by
  have hev : evAt E c'.st = evAt E c.st := funext fun e => funext fun ec => hE _ _ h e ec
  unfold renderOf
  rw [taskCtxIdxs_congr h k, taskContext_congr h, hs, hev]

theorem normItems_idem (I : Option (List Status)) (n : Nat) : normItems (some (normItems I n)) n = normItems I n := by
  unfold normItems
  cases I with
  | none => dsimp only; split <;> rfl
  | some its =>
    dsimp only
    cases h : its.isEmpty
    · simp only [Bool.false_eq_true, if_false, h]
    · simp only [if_true]; split <;> rfl

/-- `t` is `s` with the items of some staged entries initialised the way a query initialises them:
    to the count the task renders with, which is why `countOf` appears (`normItems · n` is idempotent
    for one `n`, and the count does not depend on the items, `countOf_congr`) -/
structure Le (s t : Cond) : Prop where
  spec : t.spec = s.spec
  same : SameButItems s.st t.st
  items : ∀ k, itemsAt t.st k = itemsAt s.st k ∨
    ∃ n, countOf E s k = some n ∧ itemsAt t.st k = some (normItems (itemsAt s.st k) n)

theorem Le.refl (s : Cond) : Le E s s := ⟨rfl, SameButItems.refl _, fun _ => Or.inl rfl⟩

theorem countOf_congr (hE : E.ItemsBlind) {s t : Cond} (hs : t.spec = s.spec) (h : SameButItems s.st t.st)
    (k : TaskKey) : countOf E t k = countOf E s k := by
  unfold countOf
  rw [renderOf_congr E hE hs h k]

theorem Le.norm_eq {s t : Cond} (h : Le E s t) {k : TaskKey} {n : Nat} (hn : countOf E s k = some n) :
    normItems (itemsAt t.st k) n = normItems (itemsAt s.st k) n := by
  rcases h.items k with hi | ⟨n', hn', hi⟩
  · rw [hi]
  · cases hn.symm.trans hn'
    rw [hi, normItems_idem]

theorem Le.fixed {s t : Cond} (h : Le E s t) {k : TaskKey} {n : Nat} (hn : countOf E s k = some n)
    {I : Option (List Status)} (hi : itemsAt s.st k = some (normItems I n)) :
    itemsAt t.st k = some (normItems I n) := by
  rcases h.items k with ht | ⟨n', hn', ht⟩
  · rw [ht, hi]
  · cases hn.symm.trans hn'
    rw [ht, hi, normItems_idem]

theorem Le.trans (hE : E.ItemsBlind) {a b c : Cond} (h1 : Le E a b) (h2 : Le E b c) : Le E a c := by
  refine ⟨h2.spec.trans h1.spec, h1.same.trans h2.same, ?_⟩
  intro k
  rcases h2.items k with h | ⟨n, hn, h⟩
  · rw [h]; exact h1.items k
  · rw [countOf_congr E hE h1.spec h1.same k] at hn
    exact .inr ⟨n, hn, by rw [h, h1.norm_eq E hn]⟩

theorem applyItems_same (c : Cond) (k : TaskKey) (it : Option (List Status)) :
    SameButItems c.st (applyItems c k it).st := by
  cases it with
  | none => exact SameButItems.refl _
  | some items => exact SameButItems.setItems _ _ _

theorem applyItems_spec (c : Cond) (k : TaskKey) (it : Option (List Status)) : (applyItems c k it).spec = c.spec := by
  cases it <;> rfl

theorem countOf_applyItems (hE : E.ItemsBlind) (s : Cond) (k k' : TaskKey) (it : Option (List Status)) :
    countOf E (applyItems s k it) k' = countOf E s k' :=
  countOf_congr E hE (applyItems_spec s k it) (applyItems_same s k it) k'

theorem entryOk_items {s : Cond} {sx : Staged} {r : Option Offer} {items : List Status}
    (hs : entryOk E s sx = some (r, some items)) :
    ∃ x n, s.st.getStaged? (sx.id, sx.route) = some x ∧ countOf E s (sx.id, sx.route) = some n ∧
      items = normItems x.items n := by
  obtain ⟨o, o', hr, _, ⟨_, _, h⟩ | ⟨n, x, hn, hx, _, h⟩⟩ := entryOk_some E hs
  · cases h
  · exact ⟨x, n, hx, (countOf_of_render E hr).trans hn, Option.some.inj h⟩

/-- the step is monotone: on a state with more entries normalised it gives the same offer and
    records the same items -/
theorem entryOk_mono (hE : E.ItemsBlind) {s t : Cond} (h : Le E s t) (sx : Staged) (r : Option Offer)
    (it : Option (List Status)) (hs : entryOk E s sx = some (r, it)) : entryOk E t sx = some (r, it) := by
  obtain ⟨o, o', hr, rfl, hw⟩ := entryOk_some E hs
  have hk := renderOf_key E hr
  unfold entryOk
  rw [renderOf_congr E hE h.spec h.same, hr]
  dsimp only
  rw [hk]
  rcases hw with ⟨hn, rfl, rfl⟩ | ⟨n, x, hn, hx, hw, rfl⟩
  · simp only [hn]
  · obtain ⟨y, hy, _⟩ := getStaged?_exists h.same _ x hx
    have := h.norm_eq E (k := (sx.id, sx.route)) (n := n) ((countOf_of_render E hr).trans hn)
    rw [itemsAt_of_getStaged hy, itemsAt_of_getStaged hx] at this
    simp only [hn, hy, this, hw]

theorem Le.step (hE : E.ItemsBlind) (s : Cond) (sx : Staged) (r : Option Offer) (it : Option (List Status))
    (hs : entryOk E s sx = some (r, it)) : Le E s (applyItems s (sx.id, sx.route) it) := by
  refine ⟨applyItems_spec _ _ _, applyItems_same _ _ _, ?_⟩
  intro k'
  cases it with
  | none => exact Or.inl rfl
  | some items =>
    obtain ⟨x, n, hx, hn, hi⟩ := entryOk_items E hs
    have := itemsAt_setItems s.st (sx.id, sx.route) k' items
    by_cases hk : k' = (sx.id, sx.route)
    · subst hk
      rw [if_pos rfl, hx] at this
      exact .inr ⟨n, hn, by rw [itemsAt_of_getStaged hx, ← hi]; exact this⟩
    · rw [if_neg hk] at this
      exact .inl this

theorem Le.apply (hE : E.ItemsBlind) {s t : Cond} (h : Le E s t) (sx : Staged) (r : Option Offer)
    (it : Option (List Status)) (hs : entryOk E s sx = some (r, it)) :
    Le E (applyItems s (sx.id, sx.route) it) (applyItems t (sx.id, sx.route) it) := by
  refine ⟨?_, ?_, ?_⟩
  · rw [applyItems_spec, applyItems_spec]; exact h.spec
  · exact ((applyItems_same s _ it).symm.trans h.same).trans (applyItems_same t _ it)
  · intro k'
    cases it with
    | none => exact h.items k'
    | some items =>
      obtain ⟨x, n, hx, hn, hi⟩ := entryOk_items E hs
      obtain ⟨y, hy, _⟩ := getStaged?_exists h.same _ x hx
      show itemsAt (setItems t.st _ items) k' = itemsAt (setItems s.st _ items) k' ∨
        ∃ n, countOf E (applyItems s _ (some items)) k' = some n ∧
          itemsAt (setItems t.st _ items) k' = some (normItems (itemsAt (setItems s.st _ items) k') n)
      rw [itemsAt_setItems, itemsAt_setItems, countOf_applyItems E hE]
      split
      · rw [hx, hy]; exact .inl rfl
      · exact h.items k'

/-- saturation: on a state that already contains what the step records, the step changes nothing -/
theorem applyItems_saturated (hE : E.ItemsBlind) (s t : Cond) (sx : Staged) (r : Option Offer)
    (it : Option (List Status)) (hs : entryOk E s sx = some (r, it))
    (h : Le E (applyItems s (sx.id, sx.route) it) t) : applyItems t (sx.id, sx.route) it = t := by
  cases it with
  | none => rfl
  | some items =>
    obtain ⟨x, n, hx, hn, hi⟩ := entryOk_items E hs
    have hs' : itemsAt (applyItems s (sx.id, sx.route) (some items)).st (sx.id, sx.route) =
        some (normItems x.items n) := by
      show itemsAt (setItems s.st _ items) _ = _
      rw [itemsAt_setItems, if_pos rfl, hx, hi]
      rfl
    have hn' := (countOf_applyItems E hE s (sx.id, sx.route) _ (some items)).trans hn
    show ({ t with st := setItems t.st (sx.id, sx.route) items } : Cond) = t
    rw [setItems_noop _ _ _ (hi ▸ h.fixed E hn' hs')]

theorem nextLoop_idem (hE : E.ItemsBlind) (l : List Staged) (acc : List Offer × Bool) (s c1 : Cond)
    (offers : List Offer) (h : nextLoop E l acc s = (.ok (offers, false), c1)) :
    Le E s c1 ∧ ∃ new, offers = acc.1 ++ new ∧
      ∀ t (acc' : List Offer × Bool), Le E c1 t → acc'.2 = false →
        nextLoop E l acc' t = (.ok (acc'.1 ++ new, false), t) := by
  induction l generalizing acc s with
  | nil =>
    cases h
    refine ⟨Le.refl E _, [], (List.append_nil _).symm, ?_⟩
    intro t acc' _ ha'
    show (Except.ok acc', t) = _
    rw [List.append_nil, ← ha']
  | cons x xs ih =>
    obtain ⟨r, it, he, h2⟩ := nextLoop_cons_ok E h
    obtain ⟨hle, new', hoff, hrest⟩ := ih (pushOffer acc.1 r, acc.2) _ h2
    have hstep := Le.step E hE s x r it he
    refine ⟨Le.trans E hE hstep hle, (pushOffer [] r) ++ new', ?_, ?_⟩
    · rw [hoff]
      cases r <;> simp [pushOffer]
    · intro t acc' hct ha'
      have het := entryOk_mono E hE (Le.trans E hE (Le.trans E hE hstep hle) hct) x r it he
      have hsat := applyItems_saturated E hE s t x r it he (Le.trans E hE hle hct)
      show (loopBody E acc' x >>= fun b => nextLoop E xs b) t = _
      rw [M.bind_run_ok _ (loopBody_ok E acc' x t r it het), hsat, hrest t (pushOffer acc'.1 r, acc'.2) hct ha']
      cases r <;> simp [pushOffer]

theorem nextTaskFor_dropItems (sx : Staged) : nextTaskFor E sx.dropItems = nextTaskFor E sx := rfl

/-- `nextTaskFor` reads of its entry only the key and the retry state, so `loopBody E b a.dropItems` is
    `loopBody E b a` by `rfl`, and the loop does not see the items of the list it runs over -/
theorem nextLoop_congr (l l' : List Staged) (h : l'.map Staged.dropItems = l.map Staged.dropItems)
    (acc : List Offer × Bool) : nextLoop E l' acc = nextLoop E l acc :=
  (M.foldM'_map Staged.dropItems (loopBody E) l' acc).symm.trans (h ▸ M.foldM'_map Staged.dropItems (loopBody E) l acc)

theorem nextTodo_congr {st st' : WState} (h : SameButItems st st') :
    (nextTodo st').map Staged.dropItems = (nextTodo st).map Staged.dropItems := by
  have hf : ∀ (p : Staged → Bool) (l : List Staged), (∀ x, p x.dropItems = p x) →
      (l.filter p).map Staged.dropItems = (l.map Staged.dropItems).filter p := by
    intro p l hp
    rw [List.filter_map]
    exact congrArg (fun q => (l.filter q).map _) (funext fun x => (hp x).symm)
  have hready : st'.readyStaged.map Staged.dropItems = st.readyStaged.map Staged.dropItems := by
    unfold WState.readyStaged
    rw [hf _ _ fun _ => rfl, hf _ _ fun _ => rfl, h.staged]
  rw [nextTodo_eq, nextTodo_eq, h.status]
  split
  · exact hready
  · split
    · rw [hf _ _ fun _ => rfl, hf _ _ fun _ => rfl, hready]
    · rfl

/-- **C19**: for an evaluator that cannot see the `items` bookkeeping of the staging area, a call
    of `get_next_tasks` that returned tasks is repeatable: asked again at once, the conductor
    gives the same answer and its state stays exactly as the first call left it -/
theorem getNextTasks_idem (hE : E.ItemsBlind) (c c1 : Cond) (r : List Offer)
    (h : getNextTasks E c = (.ok r, c1)) (hr : r ≠ []) : getNextTasks E c1 = (.ok r, c1) := by
  obtain ⟨offers, hloop, rfl⟩ := nextFrom_ok_ne E h hr
  unfold getNextTasks
  rw [nextFrom_eq]
  obtain ⟨hle, new, hoff, hrest⟩ := nextLoop_idem E hE _ ([], false) c _ offers hloop
  rw [nextLoop_congr E _ _ (nextTodo_congr hle.same),
    M.bind_run_ok _ (hrest _ ([], false) (Le.refl E _) rfl), hoff]
  rfl

end Orq
