/-
What single writes do to the records and the staging area: which records and entries exist after a
write, what they were before it and where their lists come from.
-/
import OrqModel.Proofs.Invariants
import OrqModel.Proofs.TaskMachine

namespace Orq

variable {c : Cond} {w : Write}

/-- the update of one record that a write can be; for the task machine it comes with the equation of
    the table's answer in `c` -/
inductive Write.Modifies (c : Cond) : Write → Nat → (Rec → Rec) → Prop
  | record (i u) : Modifies c (.record i u) i u.apply
  | publish (idx tid ctx n) : Modifies c (.publish idx tid ctx n) idx fun r => { r with ctxsOut := some (tid, n) }
  | tkEv (i ev r s) : c.st.sequence[i]? = some r → tkEventStep c r ev = .ok (.ok s) →
      Modifies c (.tkEv i ev) i fun r => { r with status := some s }
  | tkReq (i req r s) : c.st.sequence[i]? = some r →
      tkOnWorkflowEvent (r.status.getD .unset) req (itemFlags c.st r).1 (itemFlags c.st r).2.1 (itemFlags c.st r).2.2 = .ok s →
      Modifies c (.tkReq i req) i fun r => { r with status := some s }

theorem Write.sequence_apply (w : Write) (c : Cond) :
    (w.apply c).st.sequence = c.st.sequence ∨
    (∃ i g, Write.Modifies c w i g ∧ (w.apply c).st.sequence = c.st.sequence.modify i g) ∨
    (∃ r k, w = .appendRec r k ∧ (w.apply c).st.sequence = c.st.sequence ++ [r]) := by
  cases w with
  | log e => rw [Write.log_st]; exact .inl rfl
  | wfTask k ev => obtain ⟨s, es, e⟩ := Write.wf_apply (.inl ⟨k, ev, rfl⟩) c; rw [e]; exact .inl rfl
  | wfReq req => obtain ⟨s, es, e⟩ := Write.wf_apply (.inr ⟨req, rfl⟩) c; rw [e]; exact .inl rfl
  | tkReq i req =>
    obtain e | ⟨r, s, hr, hs, e⟩ := Write.tkReq_apply i req c <;> rw [e]
    · exact .inl rfl
    · exact .inr (.inl ⟨i, _, .tkReq i req r s hr hs, rfl⟩)
  | tkEv i ev =>
    obtain e | ⟨r, s, hr, hs, e⟩ := Write.tkEv_apply i ev c <;> rw [e]
    · exact .inl rfl
    · exact .inr (.inl ⟨i, _, .tkEv i ev r s hr hs, rfl⟩)
  | record i u => exact .inr (.inl ⟨i, _, .record i u, rfl⟩)
  | publish idx tid ctx n => exact .inr (.inl ⟨idx, _, .publish idx tid ctx n, rfl⟩)
  | staged u => obtain ⟨l, hl⟩ := u.apply_eq c.st; left; simp only [Write.apply, hl]
  | appendRec r k => exact .inr (.inr ⟨r, k, rfl, WState.setTask_sequence ..⟩)
  | _ => exact .inl rfl

theorem Write.getElem_sequence {i : Nat} {r' : Rec} (h : (w.apply c).st.sequence[i]? = some r') :
    (∃ r, c.st.sequence[i]? = some r ∧ r'.core = r.core) ∨ (i = c.st.sequence.length ∧ ∃ k, w = .appendRec r' k) := by
  by_cases hi : i < c.st.sequence.length
  · obtain ⟨r'', hr'', hc⟩ := (Write.ext c w).getElem_core (List.getElem?_eq_getElem hi)
    rw [h] at hr''
    cases hr''
    exact Or.inl ⟨_, List.getElem?_eq_getElem hi, hc⟩
  · right
    have hlt := (List.getElem?_eq_some_iff.mp h).1
    obtain e | ⟨_, _, _, e⟩ | ⟨r, k, rfl, e⟩ := w.sequence_apply c <;> rw [e] at h hlt
    · exact absurd hlt hi
    · rw [List.length_modify] at hlt
      exact absurd hlt hi
    · simp only [List.length_append, List.length_singleton] at hlt
      have hi' : i = c.st.sequence.length := Nat.eq_of_lt_succ_of_not_lt hlt hi
      subst hi'
      simp only [List.getElem?_concat_length, Option.some.injEq] at h
      exact ⟨rfl, k, by rw [h]⟩

theorem Write.getElem_record (i : Nat) (u : RecUpd) {r : Rec} (hr : c.st.sequence[i]? = some r) :
    ((Write.record i u).apply c).st.sequence[i]? = some (u.apply r) :=
  (WState.updateRec_getElem?_self c.st i u.apply).trans (congrArg (Option.map u.apply) hr)

theorem Write.getElem_publish (idx : Nat) (tid : TransId) (ctx : Val.Dict) (n : Nat) {r : Rec} (hr : c.st.sequence[idx]? = some r) :
    ((Write.publish idx tid ctx n).apply c).st.sequence[idx]? = some { r with ctxsOut := some (tid, n) } :=
  (WState.updateRec_getElem?_self _ idx _).trans (congrArg (Option.map _) hr)

theorem Write.oldStep {ρ : Rec → Rec → Prop} (hrefl : ∀ r, ρ r r) {j : Nat} {r : Rec} (hr : c.st.sequence[j]? = some r)
    (hmod : ∀ g, Write.Modifies c w j g → ρ r (g r)) : ∃ r', (w.apply c).st.sequence[j]? = some r' ∧ ρ r r' := by
  obtain e | ⟨i, g, hm, e⟩ | ⟨r0, k, _, e⟩ := w.sequence_apply c <;> rw [e]
  · exact ⟨r, hr, hrefl r⟩
  · by_cases hj : j = i
    · subst hj
      exact ⟨g r, by rw [List.getElem?_modify_eq, hr]; rfl, hmod g hm⟩
    · exact ⟨r, by rw [List.getElem?_modify_ne _ _ (Ne.symm hj), hr], hrefl r⟩
  · exact ⟨r, by rw [List.getElem?_append_left (List.getElem?_eq_some_iff.mp hr).1]; exact hr, hrefl r⟩

theorem Write.recsStep {ρ : Rec → Rec → Prop} {ν : Rec → Prop} (hrefl : ∀ r, ρ r r)
    (hmod : ∀ i g r, Write.Modifies c w i g → c.st.sequence[i]? = some r → ρ r (g r))
    (hnew : ∀ r k, w = .appendRec r k → ν r) : RecsStep ρ ν c (w.apply c) := by
  constructor
  · exact fun j r hr => Write.oldStep hrefl hr fun g hm => hmod j g r hm hr
  · intro j r' hr' hnone
    obtain ⟨r, hr, _⟩ | ⟨_, k, rfl⟩ := Write.getElem_sequence hr'
    · rw [hr] at hnone; cases hnone
    · exact hnew r' k rfl

theorem Write.recsAll {P : Rec → Prop} (hmod : ∀ i g r, Write.Modifies c w i g → c.st.sequence[i]? = some r → P r → P (g r))
    (hnew : ∀ r k, w = .appendRec r k → P r) (h : ∀ r ∈ c.st.sequence, P r) : ∀ r ∈ (w.apply c).st.sequence, P r :=
  (Write.recsStep (ρ := fun r r' => P r → P r') (fun _ => id) hmod hnew).all (fun _ _ hs => hs) (fun _ => id) h

theorem tkEv_record (idx : Nat) (ev : Event) (c : Cond) {r : Rec} (hr : c.st.sequence[idx]? = some r) :
    ∃ r', ((Write.tkEv idx ev).apply c).st.sequence[idx]? = some r' ∧ r'.core = r.core ∧ r'.next = r.next ∧ r'.retry = r.retry ∧
      (r'.status = some .retrying → r.status.getD .unset ≠ .retrying →
        ev = .engine .retry_ ∧ (r.status = some .succeeded ∨ r.status = some .failed)) :=
  Write.oldStep (ρ := fun r r' => r'.core = r.core ∧ r'.next = r.next ∧ r'.retry = r.retry ∧
      (r'.status = some .retrying → r.status.getD .unset ≠ .retrying →
        ev = .engine .retry_ ∧ (r.status = some .succeeded ∨ r.status = some .failed)))
    (fun _ => ⟨rfl, rfl, rfl, fun hs hold => absurd (by rw [hs]; rfl) hold⟩) hr fun _ hm => by
      cases hm with
      | tkEv _ _ r0 s h1 h2 =>
        rw [hr] at h1
        cases h1
        exact ⟨rfl, rfl, rfl, fun hs hold => tkEventStep_enter c r ev (by cases hs; exact h2) hold⟩

theorem Write.next_eq {j : Nat} {r : Rec} (hr : c.st.sequence[j]? = some r) (h : ∀ tid b, w ≠ .record j (.decide tid b)) :
    ∃ r', (w.apply c).st.sequence[j]? = some r' ∧ r'.next = r.next :=
  Write.oldStep (ρ := fun r r' => r'.next = r.next) (fun _ => rfl) hr fun g hm => by
    cases hm with
    | record i u => cases u <;> first | rfl | exact absurd rfl (h _ _)
    | _ => rfl

theorem Write.nxAll (h : ∀ i tid b, w ≠ .record i (.decide tid b)) : NxAll c (w.apply c) :=
  ⟨fun j _ hr => Write.next_eq hr (h j)⟩

theorem Write.tasks_eq (w : Write) (c : Cond) (h : ∀ r k, w ≠ .appendRec r k) : (w.apply c).st.tasks = c.st.tasks := by
  cases w with
  | log e => rw [Write.log_st]
  | wfTask | wfReq | tkReq | tkEv => rw [Write.machine_apply c]; exact id
  | staged u => obtain ⟨l, hl⟩ := u.apply_eq c.st; simp only [Write.apply, hl]
  | appendRec r k => exact absurd rfl (h r k)
  | _ => rfl

theorem Write.tkStep (hw : ∀ r k, w = .appendRec r k → r.id = k.1) : TKStep c (w.apply c) := by
  refine ⟨Write.ext c w, ?_⟩
  by_cases h : ∃ r k, w = .appendRec r k
  · obtain ⟨r, k, rfl⟩ := h
    exact (TKStep.append c r k (hw r k rfl)).tasks
  · intro p hp
    rw [Write.tasks_eq w c fun r k e => h ⟨r, k, e⟩] at hp
    exact .inl hp

theorem Write.staged_eq (w : Write) (c : Cond) (h : ∀ u, w ≠ .staged u) (h' : ∀ x r, w ≠ .start x r) :
    (w.apply c).st.staged = c.st.staged := by
  cases w with
  | log e => rw [Write.log_st]
  | wfTask | wfReq | tkReq | tkEv => rw [Write.machine_apply c]; exact id
  | staged u => exact absurd rfl (h u)
  | start x r => exact absurd rfl (h' x r)
  | appendRec r k => exact WState.setTask_staged ..
  | _ => rfl

theorem Write.mem_staged {x' : Staged} (h : x' ∈ (w.apply c).st.staged) :
    (∃ x ∈ c.st.staged, x'.id = x.id ∧ x'.prev = x.prev ∧ x'.ctxsIn = x.ctxsIn) ∨
    (∃ k rest backref idx, w = .staged (.arrive k rest backref idx) ∧ ∃ x ∈ c.st.staged, x.id = k.1 ∧
      x'.id = x.id ∧ x'.prev = setAssoc x.prev backref idx ∧ x'.ctxsIn = x.ctxsIn ++ rest) ∨
    w = .staged (.add x') ∨
    (∃ ctx roots, w = .start ctx roots ∧ x'.prev = [] ∧ x'.ctxsIn = [0]) := by
  have hold : ∀ {k : TaskKey} {g : Staged → Staged}, x' ∈ (c.st.updateStaged k g).staged →
      (∀ x, (g x).id = x.id ∧ (g x).prev = x.prev ∧ (g x).ctxsIn = x.ctxsIn) →
      ∃ x ∈ c.st.staged, x'.id = x.id ∧ x'.prev = x.prev ∧ x'.ctxsIn = x.ctxsIn := by
    intro k g hx' hg
    obtain h1 | ⟨x, h1, rfl⟩ := WState.mem_updateStaged hx'
    · exact ⟨x', h1, rfl, rfl, rfl⟩
    · exact ⟨x, (WState.getStaged?_some h1).1, hg x⟩
  cases w with
  | staged u =>
    cases u with
    | arrive k rest backref idx =>
      obtain hx | ⟨x, hx, rfl⟩ := WState.mem_updateStaged h
      · exact .inl ⟨x', hx, rfl, rfl, rfl⟩
      · obtain ⟨hx, hid, -⟩ := WState.getStaged?_some hx
        exact .inr (.inl ⟨k, rest, backref, idx, rfl, x, hx, hid, rfl, rfl, rfl⟩)
    | add x =>
      obtain hx | hx := List.mem_append.mp h
      · exact .inl ⟨x', hx, rfl, rfl, rfl⟩
      · rw [List.mem_singleton.mp hx]; exact .inr (.inr (.inl rfl))
    | remove k => exact .inl ⟨x', WState.mem_removeStaged h, rfl, rfl, rfl⟩
    | _ => exact .inl (hold h fun _ => ⟨rfl, rfl, rfl⟩)
  | start ctx roots =>
    obtain hx | hx := List.mem_append.mp h
    · exact .inl ⟨x', hx, rfl, rfl, rfl⟩
    · obtain ⟨n, _, rfl⟩ := List.mem_map.mp hx
      exact .inr (.inr (.inr ⟨ctx, roots, rfl, rfl, rfl⟩))
  | _ =>
    rw [Write.staged_eq _ c (fun _ => Write.noConfusion) (fun _ _ => Write.noConfusion)] at h
    exact .inl ⟨x', h, rfl, rfl, rfl⟩

/-- such an invariant survives a write if `Φ` of an existing list does, and if `Φ` holds of the
    lists the write creates: of an entry a transition arrives at, of an added entry, of a start
    task, of an appended record -/
theorem Listed.write {Φ : Cond → String → List (TransId × Nat) → List Nat → Prop} (hl : Listed Φ c)
    (hmono : ∀ id p cs, Φ c id p cs → Φ (w.apply c) id p cs)
    (harrive : ∀ k rest backref idx, w = .staged (.arrive k rest backref idx) → ∀ x ∈ c.st.staged, x.id = k.1 →
      Φ (w.apply c) x.id (setAssoc x.prev backref idx) (x.ctxsIn ++ rest))
    (hadd : ∀ x, w = .staged (.add x) → Φ (w.apply c) x.id x.prev x.ctxsIn)
    (hstart : ∀ ctx roots, w = .start ctx roots → ∀ n, Φ (w.apply c) n [] [0])
    (happ : ∀ r k, w = .appendRec r k → Φ (w.apply c) r.id r.prev r.ctxsIn) : Listed Φ (w.apply c) := by
  constructor
  · intro x' hx'
    obtain ⟨x, hx, e1, e2, e3⟩ | ⟨k, rest, backref, idx, e, x, hx, hid, e1, e2, e3⟩ | e | ⟨ctx, roots, e, e2, e3⟩ :=
      Write.mem_staged hx'
    · rw [e1, e2, e3]; exact hmono _ _ _ (hl.staged x hx)
    · rw [e1, e2, e3]; exact harrive k rest backref idx e x hx hid
    · exact hadd x' e
    · rw [e2, e3]; exact hstart ctx roots e _
  · intro r' hr'
    obtain ⟨i, hi⟩ := List.getElem?_of_mem hr'
    obtain ⟨r, hr, hc⟩ | ⟨_, k, e⟩ := Write.getElem_sequence hi
    · rw [Rec.core_id hc, Rec.core_prev hc, Rec.core_ctxsIn hc]
      exact hmono _ _ _ (hl.recs r (List.mem_of_getElem? hr))
    · exact happ r' k e

end Orq
