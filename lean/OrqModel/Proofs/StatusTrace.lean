/-
Refinement of the conductor's API operations to the *workflow status automaton*: every operation
changes the workflow status only by a finite sequence of moves, each of which is one application
of the extracted state-machine functions (for *some* answers of the state queries) or the
unreachable-join switch to `failed`; `request_workflow_rerun`, which sets `resuming` outright, is
excluded.  All status-closure properties (C02, C04, C09, C10) are then corollaries of `decide`d
facts about the generated tables.
-/
import OrqModel.Proofs.Fields
import OrqModel.Proofs.Footprint
import OrqModel.Proofs.StepRes

namespace Orq

/-- one move of the workflow status automaton (without rerun).  `A` is the set of statuses that
    may be *requested* (explicitly by the provider, or `failed` by the conductor itself). -/
inductive WfMove (A : Status → Bool) : Status → Status → Prop
  | taskEvent {s s'} (ev : Status) (rem act : Bool) (oc : Outcome) :
      wfOnTaskEvent s ev rem act oc = .ok s' → WfMove A s s'
  | taskEventUnreach {s s'} (ev : Status) (rem act : Bool) (oc : Outcome) :
      wfOnTaskEvent s ev rem act oc = .ok s' → s' ≠ s → wfUnreachCheck s' = true → WfMove A s .failed
  | wfEvent {s s'} (req : Status) (a st p : Bool) :
      A req = true → wfOnWorkflowEvent s req a st p = .ok s' → WfMove A s s'
  | wfEventUnreach {s s'} (req : Status) (a st p : Bool) :
      A req = true → wfOnWorkflowEvent s req a st p = .ok s' → s' ≠ s → wfReqUnreachCheck s' = true →
      WfMove A s .failed

inductive WfTrace (A : Status → Bool) : Status → Status → Prop
  | refl (s) : WfTrace A s s
  | step {a b c} : WfMove A a b → WfTrace A b c → WfTrace A a c

theorem WfTrace.trans {A} {a b c} (h1 : WfTrace A a b) (h2 : WfTrace A b c) : WfTrace A a c := by
  induction h1 with
  | refl => exact h2
  | step m _ ih => exact .step m (ih h2)

theorem WfTrace.single {A} {a b} (m : WfMove A a b) : WfTrace A a b := .step m (.refl _)

theorem WfTrace.closed {A} {S : Status → Prop} (hS : ∀ a b, S a → WfMove A a b → S b)
    {a b} (h : WfTrace A a b) (ha : S a) : S b := by
  induction h with
  | refl => exact ha
  | step m _ ih => exact ih (hS _ _ ha m)

theorem WfMove.mono {A B : Status → Bool} (hAB : ∀ s, A s = true → B s = true) {a b}
    (h : WfMove A a b) : WfMove B a b := by
  cases h with
  | taskEvent ev rem act oc h => exact .taskEvent ev rem act oc h
  | taskEventUnreach ev rem act oc h h1 h2 => exact .taskEventUnreach ev rem act oc h h1 h2
  | wfEvent req a st p hA h => exact .wfEvent req a st p (hAB _ hA) h
  | wfEventUnreach req a st p hA h h1 h2 => exact .wfEventUnreach req a st p (hAB _ hA) h h1 h2

theorem WfTrace.mono {A B : Status → Bool} (hAB : ∀ s, A s = true → B s = true) {a b}
    (h : WfTrace A a b) : WfTrace B a b := by
  induction h with
  | refl => exact .refl _
  | step m _ ih => exact .step (m.mono hAB) ih

def statusPre (A : Status → Bool) : Pre where
  R c c' := WfTrace A c.st.status c'.st.status
  refl _ := .refl _
  trans := WfTrace.trans

variable {A : Status → Bool}

def keepPre : Pre where
  R c c' := c'.st.status = c.st.status
  refl _ := rfl
  trans h1 h2 := h2.trans h1

theorem Rel.modifySt_keep {f : WState → WState} (h : ∀ st, (f st).status = st.status) :
    Rel keepPre (M.modifySt f) :=
  Rel.modifySt fun c => h c.st

/-- the writes that cannot change the workflow status: all but the workflow machine and the explicit
    assignment -/
def Write.keepsStatus : Write → Prop
  | .wfTask .. | .wfReq _ | .status _ => False
  | _ => True

theorem Write.status_eq {w : Write} (h : w.keepsStatus) (c : Cond) : (w.apply c).st.status = c.st.status := by
  cases w with
  | log e => rw [Write.log_st]
  | tkReq | tkEv => exact (Write.refine _ c).rel (P := keepPre) fun _ _ ⟨_, e⟩ => e ▸ rfl
  | staged u => obtain ⟨l, hl⟩ := u.apply_eq c.st; show (u.apply c.st).status = _; rw [hl]
  | appendRec r k => exact WState.setTask_status ..
  | _ => first | exact h.elim | rfl

theorem Rel.keep {α} {m : M α} (h : Writes Write.keepsStatus m) : Rel keepPre m :=
  h.of_run fun c _ hw => Write.status_eq hw c

theorem logError_keep (k a b c) : Rel keepPre (logError k a b c) := Rel.keep (logError_run k a b c fun _ _ => trivial)

theorem wfAnswer_status_eq (s' : Status) (chk : Status → Bool) (c : Cond) :
    (wfAnswer (.ok s') chk c).2.st.status =
      if (s' != c.st.status && chk s') = true ∧
         (unreachableBarriers { c with st := { c.st with status := s' } }).isEmpty = false then .failed else s' := by
  unfold wfAnswer
  dsimp only
  split
  · next h1 =>
    split
    · next h2 => rw [if_neg fun h => by rw [h2] at h; cases h.2]
    · next h2 =>
      rw [if_pos ⟨h1, Bool.eq_false_iff.mpr h2⟩]
      exact (Rel.forEach (P := keepPre) _ fun _ => logError_keep ..).run _
  · next h1 => rw [if_neg fun h => h1 h.1]

theorem wfAnswer_status (s' : Status) (chk : Status → Bool) (c : Cond) :
    (wfAnswer (.ok s') chk c).2.st.status = s' ∨
    ((wfAnswer (.ok s') chk c).2.st.status = .failed ∧ s' ≠ c.st.status ∧ chk s' = true) := by
  rw [wfAnswer_status_eq]
  split
  · next h =>
    simp only [Bool.and_eq_true, bne_iff_ne, ne_eq] at h
    exact .inr ⟨rfl, h.1.1, h.1.2⟩
  · exact .inl rfl

theorem wfAnswer_trace {r : StepRes} {chk : Status → Bool} {c : Cond}
    (hmove : ∀ s', r = .ok s' → WfMove A c.st.status s')
    (hun : ∀ s', r = .ok s' → s' ≠ c.st.status → chk s' = true → WfMove A c.st.status .failed) :
    WfTrace A c.st.status (wfAnswer r chk c).2.st.status := by
  cases r with
  | raise e => exact .refl _
  | ok s' =>
    rcases wfAnswer_status s' chk c with e | ⟨e, hne, hc⟩ <;> rw [e]
    · exact .single (hmove s' rfl)
    · exact .single (hun s' rfl hne hc)

/-- the writes under which the status moves along the automaton: every write but the explicit
    assignment, the requests being among `A` -/
def Write.statusOk (A : Status → Bool) : Write → Prop
  | .wfReq r => A r = true
  | .status _ => False
  | _ => True

theorem Write.statusTrace (c : Cond) (w : Write) (h : w.statusOk A) : WfTrace A c.st.status (w.apply c).st.status := by
  have keep (hk : w.keepsStatus) : WfTrace A c.st.status (w.apply c).st.status := Write.status_eq hk c ▸ .refl _
  cases w with
  | wfTask k ev => exact wfAnswer_trace (fun _ e => .taskEvent _ _ _ _ e) fun _ e => .taskEventUnreach _ _ _ _ e
  | wfReq r => exact wfAnswer_trace (fun _ e => .wfEvent r _ _ _ h e) fun _ e => .wfEventUnreach r _ _ _ h e
  | status s => exact h.elim
  | _ => exact keep trivial

/-- every API operation but the rerun moves the status along the automaton, with its own request
    (a status request) or the conductor's `failed`: of its writes only a request to the workflow
    machine and an explicit assignment are constrained -/
theorem Op.writes_statusOk (E : Evaluator) (hF : A .failed = true) {op : Op} (hop : op.isRerun = false)
    (hreq : ∀ s, op = .req s → A s = true) {w : Write} (h : op.writes E w) : w.statusOk A := by
  cases w with
  | wfReq r => cases op with
    | req s => exact h ▸ hreq s rfl
    | rerun _ => cases hop
    | _ => exact h ▸ hF
  | status s => cases op with
    | rerun _ => cases hop
    | _ => exact h
  | _ => trivial

end Orq
