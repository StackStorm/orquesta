/-
A guarded write keeps the step relations on records (`Guard.decStepW`, `mk`, `nk`, `tkStep`) and, one
lemma per invariant, the invariants: `Guard.dec`, `tk`, `jt`, `logged` for `Inv0`; `just`, `ca`, `pl`
along provider histories; `inv13` with the licence of the retry event alone, `ne` with a sound
task-key map alone, `inh` under no assumption at all.  No model function is in sight here; what the
engine has established when it writes is in the guard, what a write does to records and staged
entries is in `Steps.lean`.
-/
import OrqModel.Proofs.Guard
import OrqModel.Proofs.Steps

namespace Orq

variable {a : Assume} {c0 c : Cond} {w : Write}

theorem Guard.decStepW (hg : Guard a c0 c w) (hf : a.full) : DecStepW c (w.apply c) := by
  have h : RecsStep RecStepW (fun r' => r'.next ≠ [] → Comp r') c (w.apply c) := by
    refine Write.recsStep RecStepW.refl (fun i g r hm hr => ?_) fun r k e => ?_
    · cases hm with
      | publish => exact RecStepW.same rfl rfl
      | record i u =>
        cases u with
        | decide tid b =>
          exact ⟨fun _ _ => rfl, fun _ => setAssoc_ne_nil, fun _ => .inr (hg.decide hr).1⟩
        | status s => exact hg.elim
        | _ => exact RecStepW.same rfl rfl
      | tkReq i req r0 s h1 h2 =>
        rw [hr] at h1
        cases h1
        refine RecStepW.setStatus r s fun tk hs hc _ => ?_
        rw [hs] at h2
        exact tkMove_completed (tbl_tk_wf tk req _ _ _ _ h2) hc
      | tkEv i ev r0 s h1 h2 =>
        rw [hr] at h1
        cases h1
        refine RecStepW.setStatus r s fun tk hs hc hn => ?_
        -- the retry event alone reopens a completed record, and its guard says the record is undecided
        rcases tkEventStep_move h2 with hm | ⟨hev, hst, _⟩
        · rw [hs] at hm
          exact tkMove_completed hm hc
        · exact absurd ((hg hev r hr hst).2 hf) hn
    · subst e
      exact fun hn => absurd hg.next hn
  exact ⟨h.old, h.new⟩

/-- a decision is recorded under a fresh key: what was recorded stays recorded -/
theorem Guard.mk (hg : Guard a c0 c w) (hf : a.full) : MK c (w.apply c) := by
  constructor
  intro j r m hr hm
  by_cases h : ∃ tid b, w = .record j (.decide tid b)
  · obtain ⟨tid, b, rfl⟩ := h
    refine ⟨_, Write.getElem_record j (.decide tid b) hr, ?_⟩
    show m ∈ setAssoc r.next tid b
    rw [setAssoc_fresh ((hg.decide hr).2.2 hf).1]
    exact List.mem_append_left _ hm
  · obtain ⟨r', hr', e⟩ := Write.next_eq (w := w) hr fun tid b e => h ⟨tid, b, e⟩
    exact ⟨r', hr', by rw [e]; exact hm⟩

/-- a record that was decided when the call began is not evaluated again -/
theorem Guard.nk (hg : Guard a c0 c w) (hf : a.full) (h : NK c0 c) : NK c0 (w.apply c) := by
  constructor
  intro j r0 hr0 hn
  obtain ⟨r, hr, e⟩ := h.keep j r0 hr0 hn
  obtain ⟨r', hr', e'⟩ := Write.next_eq (w := w) hr fun tid b ew => by
    subst ew
    exact hn (((hg.decide hr).2.2 hf).2 r0 hr0)
  exact ⟨r', hr', e'.trans e⟩

theorem Guard.tkStep (hg : Guard a c0 c w) : TKStep c (w.apply c) :=
  Write.tkStep fun _ _ e => by subst e; exact hg.id

/-- An invariant on what is listed survives a guarded write if `Φ` of an existing list does, and if
    in the state before the write `Φ` holds of the lists an arrival produces (`hjoin`, `hnew`) and
    passes from the lists of a task to their copy, in which an empty context list has become `[0]`
    (`hcopy`; the two tasks are the same as far as the task-key map is sound). -/
theorem Guard.listed {Φ : Cond → String → List (TransId × Nat) → List Nat → Prop} (hg : Guard a c0 c w) (hl : Listed Φ c)
    (hmono : ∀ id p cs, Φ c id p cs → Φ (w.apply c) id p cs)
    (hstart : ∀ n, Φ (w.apply c) n [] [0])
    (hcopy : ∀ id id' p cs, (a.tk → id' = id) → Φ c id' p cs → Φ c id p (if cs.isEmpty then [0] else cs))
    (hjoin : ∀ x ∈ c.st.staged, ∀ backref idx outIdxs rest, Arrival a c x.id backref idx outIdxs →
      eraseFirst outIdxs 0 = some rest → Φ c x.id (setAssoc x.prev backref idx) (x.ctxsIn ++ rest))
    (hnew : ∀ id backref idx outIdxs, Arrival a c id backref idx outIdxs →
      Φ c id [(backref, idx)] (if outIdxs.isEmpty then [0] else outIdxs)) : Listed Φ (w.apply c) := by
  refine hl.write hmono ?_ ?_ (fun _ _ _ => hstart) ?_
  · rintro k rest backref idx rfl x hx hid
    obtain ⟨outIdxs, harr, he⟩ := hg
    exact hmono _ _ _ (hjoin x hx backref idx outIdxs rest (hid ▸ harr) he)
  · rintro x rfl
    obtain ⟨backref, idx, outIdxs, harr, e1, e2⟩ | ⟨cs, ⟨i, r, hr, e1, rfl, hid⟩, e2⟩ := hg
    · rw [e1, e2]; exact hmono _ _ _ (hnew _ _ _ _ harr)
    · rw [← e1, e2]; exact hmono _ _ _ (hcopy _ _ _ _ hid (hl.recs r (List.mem_of_getElem? hr)))
  · rintro r k rfl
    obtain ⟨cs, ⟨x, hx, hx', e1, rfl⟩ | ⟨i, r0, hr, e1, rfl, hid'⟩, e2⟩ := hg.src <;> rw [← e1, e2, hg.id]
    · exact hmono _ _ _ (hcopy _ _ _ _ (fun _ => hx') (hl.staged x hx))
    · exact hmono _ _ _ (hcopy _ _ _ _ hid' (hl.recs r0 (List.mem_of_getElem? hr)))

theorem Guard.dec (hg : Guard a c0 c w) (hf : a.full) (hd : Dec c) : Dec (w.apply c) :=
  Dec.stepW (hg.decStepW hf) hd

theorem Guard.tk (hg : Guard a c0 c w) (ht : TK c) : TK (w.apply c) := TK.step hg.tkStep ht

theorem Guard.jt (hg : Guard a c0 c w) (hf : a.full) (hj : JT c) : JT (w.apply c) := by
  have h : Listed (fun c id p _ => PrevT c id p) (w.apply c) := by
    refine hg.listed ⟨hj.staged, hj.recs⟩ (fun _ _ _ h => h.mono (hg.mk hf)) (fun n => PrevT.nil _ n)
      (fun _ _ _ _ e h => e (a.full_tk hf) ▸ h) ?_ ?_
    · intro x hx backref idx outIdxs rest harr _ p hp
      obtain ⟨hp, -⟩ | rfl := mem_setAssoc_iff.mp hp
      · exact hj.staged x hx p hp
      · exact harr.recorded
    · intro id backref idx outIdxs harr p hp
      rw [List.mem_singleton.mp hp]
      exact harr.recorded
  exact ⟨h.staged, h.recs⟩

theorem Guard.logged (hg : Guard a c0 c w) (hf : a.full) (hl : Logged c) : Logged (w.apply c) := by
  have hm := hg.mk hf
  intro m hmem
  by_cases h : ∃ idx tid ctx n, w = .publish idx tid ctx n
  · obtain ⟨idx, tid, ctx, n, rfl⟩ := h
    rw [Write.pubLog_publish] at hmem
    obtain hmem | hmem := List.mem_append.mp hmem
    · exact (hl m hmem).mono hm
    · rw [List.mem_singleton.mp hmem]; exact hg.1.mono hm
  · rw [Write.pubLog_eq w c fun idx tid ctx n e => h ⟨idx, tid, ctx, n, e⟩] at hmem
    exact (hl m hmem).mono hm

theorem Inv0.write (hg : Guard a c0 c w) (hf : a.full) (hi : Inv0 c) : Inv0 (w.apply c) :=
  ⟨hg.dec hf hi.dec, hg.tk hi.tk, by rw [(w.graph_eq c).2]; exact hi.gk, hg.jt hf hi.jt, hg.logged hf hi.logged⟩

theorem Guard.just (hg : Guard a c0 c w) (hf : a.full) (hj : Just c) : Just (w.apply c) := by
  have h : Listed (fun c _ p _ => PrevOk c p) (w.apply c) := by
    refine hg.listed ⟨hj.staged, hj.recs⟩ (fun _ _ _ h => h.mono (hg.decStepW hf)) (fun _ => PrevOk.nil _)
      (fun _ _ _ _ _ h => h) ?_ ?_
    · intro x hx backref idx outIdxs rest harr _ p hp
      obtain ⟨hp, -⟩ | rfl := mem_setAssoc_iff.mp hp
      · exact hj.staged x hx p hp
      · exact harr.doneAt
    · intro id backref idx outIdxs harr p hp
      rw [List.mem_singleton.mp hp]
      exact harr.doneAt
  exact ⟨h.staged, h.recs⟩

/-
`NE`: decisions are written by `record i (.decide tid _)` only, whose guard says that `tid` is an
edge leaving the record's task; the graph does not change.  Only a sound task-key map is assumed.
-/

theorem Guard.ne (hg : Guard a c0 c w) (htk : a.tk) (hn : NE c) : NE (w.apply c) := by
  constructor
  intro r' hr' m hm
  unfold EdgeOf
  rw [(w.graph_eq c).2]
  refine Write.recsAll (P := fun r => ∀ m ∈ r.next, EdgeOf c r.id m.1) (fun i g r hmod hr hold m hm => ?_)
    (fun r k e m hm => ?_) hn.recs r' hr' m hm
  · cases hmod with
    | record i u =>
      cases u with
      | decide tid b =>
        obtain ⟨hm, -⟩ | hm := mem_setAssoc_iff.mp hm
        · exact hold m hm
        · rw [hm]; exact (hg.decide hr).2.1 htk
      | _ => exact hold m hm
    | _ => exact hold m hm
  · subst e
    rw [hg.next] at hm
    cases hm

/-
`Inv13`: only the bump `record i (.retry _)` changes a tally, and its guard says that attempts are
left; an appended record comes with its bound.
-/

theorem CanBumpRec.bump {r : Rec} {rs : RetryState} (h : CanBumpRec r) (hrs : r.retry = some rs) :
    RetryOk { r with retry := some { rs with tally := rs.tally + 1 } } := by
  intro rs' n h1 h2
  cases h1
  exact Int.le_trans (Int.add_one_le_of_lt (h rs n hrs h2)) (Int.le_max_left n 0)

theorem Guard.inv13 (hg : Guard a c0 c w) (hl : a.lic) (hi : Inv13 c) : Inv13 (w.apply c) := by
  refine Write.recsAll (fun i g r hmod hr => ?_) (fun r k e => ?_) hi
  · cases hmod with
    | record i u =>
      cases u with
      | retry rs' =>
        obtain ⟨rs, hrs, rfl, hb⟩ := hg.bump hr
        exact fun _ => (hb hl).bump hrs
      | _ => exact id
    | _ => exact id
  · subst e
    exact hg.retryOk

theorem Guard.inh (hg : Guard a c0 c w) (hi : IN c) : IN (w.apply c) := by
  have h : Listed (fun c _ p cs => Inh c p cs) (w.apply c) := by
    refine hg.listed ⟨hi.staged, hi.recs⟩ (fun _ _ _ h => h.mono (Write.ext c w)) (fun _ => ⟨List.mem_singleton.mpr rfl, nofun⟩)
      (fun _ _ _ _ _ h => h.orZero) ?_ ?_
    · intro x hx backref idx outIdxs rest harr he
      obtain ⟨h0, hold⟩ := hi.staged x hx
      obtain ⟨_, q, hq, hsub⟩ := harr.inh hi
      refine ⟨List.mem_append_left _ h0, fun p hp => ?_⟩
      obtain ⟨hp, -⟩ | rfl := mem_setAssoc_iff.mp hp
      · obtain ⟨q', hq', hsub'⟩ := hold p hp
        exact ⟨q', hq', fun i hi => List.mem_append_left _ (hsub' i hi)⟩
      · refine ⟨q, hq, fun i hi => ?_⟩
        obtain rfl | hr := (mem_eraseFirst he).mp (hsub i hi)
        · exact List.mem_append_left _ h0
        · exact List.mem_append_right _ hr
    · intro id backref idx outIdxs harr
      obtain ⟨h0, q, hq, hsub⟩ := harr.inh hi
      refine ⟨mem_orZero h0, fun p hp => ?_⟩
      rw [List.mem_singleton.mp hp]
      exact ⟨q, hq, fun i hi => mem_orZero (hsub i hi)⟩
  exact ⟨h.staged, h.recs⟩

theorem Guard.ca (hg : Guard a c0 c w) (hf : a.full) (hj : CA c) : CA (w.apply c) := by
  have h : Listed (fun c id _ cs => CtxOk c id cs) (w.apply c) := by
    refine hg.listed ⟨hj.staged, hj.recs⟩ (fun _ _ _ h => h.mono (hg.mk hf) (Write.ext c w)) (fun n => CtxOk.zero _ n)
      (fun _ _ _ _ e h => e (a.full_tk hf) ▸ h.orZero) ?_ fun _ _ _ _ harr => harr.ctxOk.orZero
    intro x hx backref idx outIdxs rest harr he i hi
    obtain hi | hi := List.mem_append.mp hi
    · exact hj.staged x hx i hi
    · exact harr.ctxOk i ((mem_eraseFirst he).mpr (.inr hi))
  exact ⟨h.staged, h.recs⟩

/-
`PL`: unlike the other invariants on lists this one is not monotone in the state: `publish` extends
the log, and is allowed only while nobody names the publishing transition.
-/

theorem NoRef.pubOk {idx : Nat} {tid : TransId} (hno : NoRef c idx tid) (hl : Listed PubOk c) (ctx : Val.Dict) (n : Nat) :
    Listed PubOk ((Write.publish idx tid ctx n).apply c) := by
  -- what `NoRef` says of each list does not depend on the state: carry it along
  have h : Listed (fun c id p cs => PubOk c id p cs ∧ ∀ q ∈ p, q.2 = idx → ((id, q.1.2) : TransId) ≠ tid)
      ((Write.publish idx tid ctx n).apply c) := by
    refine Listed.write ⟨fun x hx => ⟨hl.staged x hx, hno.staged x hx⟩, fun r hr => ⟨hl.recs r hr, hno.recs r hr⟩⟩ ?_
      (fun _ _ _ _ e => nomatch e) (fun _ e => nomatch e) (fun _ _ e => nomatch e) (fun _ _ e => nomatch e)
    rintro id p cs ⟨h, hne⟩
    refine ⟨fun q hq i hi => ?_, hne⟩
    obtain hi | hi := List.mem_append.mp (show _ ∈ c.st.pubLog ++ [(idx, tid, n)] from hi)
    · exact h q hq i hi
    · simp only [List.mem_singleton, Prod.mk.injEq] at hi
      exact absurd hi.2.1 (hne q hq hi.1)
  exact ⟨fun x hx => (h.staged x hx).1, fun r hr => (h.recs r hr).1⟩

theorem Guard.pubOk (hg : Guard a c0 c w) (hf : a.full) (hin : IN c) (hl : Listed PubOk c) :
    Listed PubOk (w.apply c) := by
  by_cases hp : ∃ idx tid ctx n, w = .publish idx tid ctx n
  · obtain ⟨idx, tid, ctx, n, rfl⟩ := hp
    exact (hg.2 hf).pubOk hl ctx n
  have hlog := Write.pubLog_eq w c fun idx tid ctx n e => hp ⟨idx, tid, ctx, n, e⟩
  refine hg.listed hl (fun _ _ _ h => h.same hlog) (fun _ => nofun) (fun _ _ _ _ e h => e (a.full_tk hf) ▸ h.orZero) ?_ ?_
  · intro x hx backref idx outIdxs rest harr he p hp i hi
    obtain ⟨hp, -⟩ | rfl := mem_setAssoc_iff.mp hp
    · exact List.mem_append_left _ (hl.staged x hx p hp i hi)
    · obtain rfl | h := (mem_eraseFirst he).mp (harr.logged hf i hi)
      · exact List.mem_append_left _ (hin.staged x hx).1
      · exact List.mem_append_right _ h
  · intro id backref idx outIdxs harr p hp i hi
    rw [List.mem_singleton.mp hp] at hi
    exact mem_orZero (harr.logged hf i hi)

theorem Guard.pl (hg : Guard a c0 c w) (hf : a.full) (hin : IN c) (hj : PL c) : PL (w.apply c) :=
  have h := hg.pubOk hf hin ⟨hj.staged, hj.recs⟩
  ⟨h.staged, h.recs, hg.logged hf hj.logged⟩

end Orq
