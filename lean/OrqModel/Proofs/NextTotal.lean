/-
C11/C15: `get_next_tasks` never raises — whatever the evaluator does, from every state whose
workflow status is one a workflow can be in.  The rendering of each task is guarded, and the
request for `failed` that follows a rendering error is always honoured (table facts).
-/
import OrqModel.Proofs.Query
import OrqModel.Properties.Status
import OrqModel.Properties.Rerun

namespace Orq

variable (E : Evaluator)

/-- the task statuses on which the task machine accepts the request for `failed`
    (`tbl_tk_failed_total`); active records carry one of them, and its answers stay among them.
    `expired` and `abandoned` are statuses of `statuses.py` for which `TaskStateMachine` has no row at all. -/
def notOdd (s : Status) : Bool := !(s == .expired) && !(s == .abandoned)

theorem tbl_tk_failed_total : ∀ (tk : Status) (h a i : Bool), notOdd tk = true →
    ((tkOnWorkflowEvent tk .failed h a i).isOk &&
      (tkOnWorkflowEvent tk .failed h a i).all? notOdd) = true := by decide +kernel

/-- the workflow machine accepts the request for `failed`, the lifecycle allows it, and the answer is
    a change of status unless the workflow has failed already: `requestStatus` raises on none of its
    three tests -/
theorem tbl_wf_failed_total : ∀ (s : Status) (a st p : Bool), wfReachable s = true → (s == .canceled) = false →
    (wfTransitionValid s .failed && (wfOnWorkflowEvent s .failed a st p).isOk &&
      (wfOnWorkflowEvent s .failed a st p).all? (fun s' => !(s' == s) || s == .failed)) = true := by
  decide +kernel

theorem isActive_notOdd : ∀ (s : Status), s.isActive = true → notOdd s = true := by decide

/-- record `i` exists and carries such a status -/
def OkAt (c : Cond) (i : Nat) : Prop :=
  ∃ r, c.st.sequence[i]? = some r ∧ notOdd (r.status.getD .unset) = true

theorem tkProcessWorkflowEvent_failed_ok (i : Nat) (c : Cond) (h : OkAt c i) :
    (tkProcessWorkflowEvent i .failed c).1 = .ok () ∧
    ∀ j, OkAt c j → OkAt (tkProcessWorkflowEvent i .failed c).2 j := by
  obtain ⟨r, hr, hodd⟩ := h
  unfold tkProcessWorkflowEvent
  simp only [hr]
  generalize (itemFlags c.st r).1 = f1
  generalize (itemFlags c.st r).2.1 = f2
  generalize (itemFlags c.st r).2.2 = f3
  have ht := tbl_tk_failed_total (r.status.getD .unset) f1 f2 f3 hodd
  simp only [Bool.and_eq_true] at ht
  cases hstep : tkOnWorkflowEvent (r.status.getD .unset) .failed f1 f2 f3 with
  | raise e => rw [hstep] at ht; cases ht.1
  | ok s' =>
    rw [hstep] at ht
    dsimp only
    split
    · exact ⟨rfl, fun j hj => hj⟩
    · refine ⟨rfl, ?_⟩
      intro j ⟨rj, hrj, hoj⟩
      by_cases hji : j = i
      · subst hji
        refine ⟨{ r with status := some s' }, ?_, ht.2⟩
        rw [WState.updateRec_getElem?_self, hr]
        rfl
      · refine ⟨rj, ?_, hoj⟩
        show (c.st.sequence.modify i _)[j]? = _
        rw [List.getElem?_modify_ne _ _ (Ne.symm hji)]
        exact hrj

theorem forEach_failed_ok (l : List Nat) (c : Cond) (h : ∀ i ∈ l, OkAt c i) :
    (M.forEach l (fun i => tkProcessWorkflowEvent i .failed) c).1 = .ok () := by
  induction l generalizing c with
  | nil => rfl
  | cons x xs ih =>
    obtain ⟨h1, h2⟩ := tkProcessWorkflowEvent_failed_ok x c (h x List.mem_cons_self)
    show ((tkProcessWorkflowEvent x .failed >>= fun _ => M.forEach xs _) c).1 = _
    rw [M.bind_run_ok _ (M.run_eq h1)]
    exact ih _ fun i hi => h2 i (h i (List.mem_cons_of_mem _ hi))

theorem idxByStatus_okAt (c : Cond) : ∀ i ∈ c.st.idxByStatus Status.isActive, OkAt c i := by
  intro i hi
  obtain ⟨_, r, x, hr, hs, hx⟩ := C17_only_current_records_counted c.st _ i hi
  exact ⟨r, hr, by rw [hs]; exact isActive_notOdd x hx⟩

theorem wfProcessWorkflowEvent_ok (req : Status) (c : Cond) (s' : Status)
    (h : wfOnWorkflowEvent c.st.status req c.st.hasActive c.st.hasStaged c.st.hasPaused = .ok s') :
    (wfProcessWorkflowEvent req c).1 = .ok () ∧
    ((wfProcessWorkflowEvent req c).2.st.status = s' ∨ (wfProcessWorkflowEvent req c).2.st.status = .failed) := by
  rw [wfProcessWorkflowEvent_eq, h]
  exact ⟨wfAnswer_ok s' _ c, (wfAnswer_status s' _ c).imp_right And.left⟩

theorem requestStatus_failed_ok (c : Cond) (hreach : wfReachable c.st.status = true)
    (hnc : (c.st.status == .canceled) = false) : (requestStatus .failed c).1 = .ok () := by
  have hcase := fun a st p => tbl_wf_failed_total c.st.status a st p hreach hnc
  simp only [Bool.and_eq_true] at hcase
  obtain ⟨c1, hf⟩ : ∃ c1, M.forEach (c.st.idxByStatus Status.isActive)
      (fun i => tkProcessWorkflowEvent i .failed) c = (.ok (), c1) :=
    ⟨_, M.run_eq (forEach_failed_ok _ c (idxByStatus_okAt c))⟩
  have hst : c1.st.status = c.st.status := by
    have := (Rel.forEach (P := keepPre) (c.st.idxByStatus Status.isActive) fun i =>
      Rel.keep (tkProcessWorkflowEvent_run i .failed fun _ => trivial)).run c
    rwa [hf] at this
  obtain ⟨⟨hvalid, hok⟩, hall⟩ := hcase c1.st.hasActive c1.st.hasStaged c1.st.hasPaused
  cases hw : wfOnWorkflowEvent c.st.status .failed c1.st.hasActive c1.st.hasStaged c1.st.hasPaused with
  | raise e => rw [hw] at hok; cases hok
  | ok s' =>
    rw [hw] at hall
    obtain ⟨hr1, hr2⟩ := wfProcessWorkflowEvent_ok .failed c1 s' (by rw [hst]; exact hw)
    unfold requestStatus
    rw [M.get_bind]
    simp only [hvalid, Bool.not_true, Bool.false_eq_true, if_false]
    rw [M.bind_run_ok _ hf, M.bind_run_ok _ (M.run_eq hr1), M.get_bind]
    have e1 : (Status.failed == Status.paused) = false := rfl
    have e2 : (Status.failed == Status.canceled) = false := rfl
    simp only [e1, e2, Bool.false_and, Bool.false_eq_true, if_false]
    split
    · next hcond =>
      exfalso
      simp only [Bool.and_eq_true, bne_iff_ne, beq_iff_eq, ne_eq] at hcond
      have hall' : (!(s' == c.st.status) || c.st.status == .failed) = true := hall
      simp only [Bool.or_eq_true, Bool.not_eq_true', beq_eq_false_iff_ne, beq_iff_eq, ne_eq] at hall'
      rcases hr2 with hr2 | hr2
      · rcases hall' with h3 | h3
        · exact h3 (hr2.symm.trans hcond.2.symm)
        · exact hcond.1 h3.symm
      · exact hcond.1 (hr2.symm.trans hcond.2.symm)
    · rfl

theorem failOnError_ok (c : Cond) (hreach : wfReachable c.st.status = true) : (failOnError c).1 = .ok () := by
  unfold failOnError
  rw [M.get_bind]
  split
  · rfl
  · rename_i hnc
    exact requestStatus_failed_ok c hreach (eq_false_of_ne_true hnc)

theorem nextTaskFor_total (sx : Staged) (c : Cond) : ∃ p, (nextTaskFor E sx c).1 = .ok p := by
  cases he : entryOk E c sx with
  | none =>
    obtain ⟨_, _, h⟩ := nextTaskFor_fail E c sx he
    exact ⟨_, by rw [h]⟩
  | some q => exact ⟨_, by rw [nextTaskFor_ok E c sx q.1 q.2 he]⟩

theorem nextLoop_total (l : List Staged) (acc : List Offer × Bool) (c : Cond) :
    ∃ p c1, nextLoop E l acc c = (.ok p, c1) := by
  induction l generalizing acc c with
  | nil => exact ⟨acc, c, rfl⟩
  | cons x xs ih =>
    show ∃ p c1, (loopBody E acc x >>= fun b => nextLoop E xs b) c = (.ok p, c1)
    obtain ⟨c', _, hc'⟩ | ⟨r, it, _, hc'⟩ := loopBody_cases E acc x c <;> rw [M.bind_run_ok _ hc'] <;> exact ih _ _

/-- **C11/C15**: from every state whose workflow status is one a workflow can be in,
    `get_next_tasks` returns: it never raises, whatever the evaluator does -/
theorem getNextTasks_total (c : Cond) (hreach : wfReachable c.st.status = true) :
    ∃ r, (getNextTasks E c).1 = .ok r := by
  unfold getNextTasks
  obtain ⟨⟨offers, failed⟩, c1, hl⟩ := nextLoop_total E (nextTodo c.st) ([], false) c
  have hq : qPre.R c c1 := by
    have := (nextLoop_q E (nextTodo c.st) ([], false)).run c
    rwa [hl] at this
  rw [nextFrom_eq, M.bind_run_ok _ hl]
  cases failed with
  | false => exact ⟨_, rfl⟩
  | true =>
    have hok := failOnError_ok c1 (by rw [hq.2.2.2.status]; exact hreach)
    exact ⟨[], by simp only [if_true]; rw [M.bind_run_ok _ (M.run_eq hok)]; rfl⟩

end Orq
