/-
Frames: what every write, every write but a few, or the writes of one operation leave untouched.
Each is a preorder with its table over writes.

* `gPre`, `logPre`: no write touches the workflow's definition or the graph composed from it, and the
  ghost publication log is written by a publishing transition only.
* `errPre` (C11): the error log only grows, outside a rerun (which deliberately clears the entries of
  the tasks it reruns).
* `crPre` (C17): a rerun request, accepted or rejected, publishes nothing and routes nothing.
* `Frame` (C09/C10): a workflow status request (pause, resume, cancel, …) touches nothing but
  statuses: the workflow status, the statuses of task records, and — when the unreachable-join check
  applies — the error log; whether the request is accepted or rejected.
-/
import OrqModel.Proofs.Footprint
import OrqModel.Proofs.Fields

namespace Orq

variable (E : Evaluator)

def gPre : Pre where
  R c c' := c'.spec = c.spec ∧ c'.graph = c.graph
  refl _ := ⟨rfl, rfl⟩
  trans h1 h2 := ⟨h2.1.trans h1.1, h2.2.trans h1.2⟩

theorem logError_g (k a b c) : Rel gPre (logError k a b c) :=
  (logError_run (G := fun _ _ => True) k a b c fun _ _ => trivial).of_run fun c w _ => Write.graph_eq w c

def logPre : Pre where
  R c c' := c'.st.pubLog = c.st.pubLog
  refl _ := rfl
  trans h1 h2 := h2.trans h1

theorem Rel.log_of_run {F : Write → Prop} {α} {m : M α} (h : Writes F m) (hF : ∀ idx tid ctx n, ¬ F (.publish idx tid ctx n)) :
    Rel logPre m :=
  h.of_run fun c w hw => Write.pubLog_eq w c fun idx tid ctx n e => hF idx tid ctx n (e ▸ hw)

theorem logError_log (k a b c) : Rel logPre (logError k a b c) :=
  Rel.log_of_run (F := Write.fails) (logError_run k a b c fun _ _ => trivial) fun _ _ _ _ h => h

theorem stageNext_log (k idx e o acc) : Rel logPre (stageNext k idx e o acc) :=
  Rel.log_of_run (stageNext_writes k idx e o acc) fun _ _ _ _ h => h

theorem updateHead_log (k ev) : Rel logPre (updateHead E k ev) :=
  Rel.log_of_run (updateHead_writes E k ev) fun _ _ _ _ h => by
    obtain h | h | h := h <;> exact h

def errPre : Pre where
  R c c' := c.errors <+: c'.errors
  refl _ := List.prefix_refl _
  trans h1 h2 := List.IsPrefix.trans h1 h2

def Write.keepsErrors : Write → Prop
  | .dropErrors _ => False
  | _ => True

theorem Write.err : ∀ (c : Cond) (w : Write), w.keepsErrors → c.errors <+: (w.apply c).errors :=
  Write.of_fine_in (P := errPre) (fun _ => trivial) (fun _ => trivial) (fun _ _ => trivial) fun c w hf hk => by
    cases w with
    | log e =>
      show c.errors <+: (if _ then c else _ : Cond).errors
      split
      · exact List.prefix_refl _
      · exact List.prefix_append _ _
    | dropErrors t => exact hk.elim
    | _ => first | exact hf.elim | exact List.prefix_refl _

theorem logError_err (k a b c) : Rel errPre (logError k a b c) :=
  (logError_run (G := fun _ => Write.keepsErrors) k a b c fun _ _ => trivial).of_run Write.err

theorem Op.writes_keepsErrors (E : Evaluator) {op : Op} (hop : op.isRerun = false) {w : Write} (h : op.writes E w) :
    w.keepsErrors := by
  cases w with
  | dropErrors t => cases op with
    | rerun _ => cases hop
    | _ => exact h
  | _ => trivial

def crPre : Pre where
  R c c' := c'.st.contexts = c.st.contexts ∧ c'.st.routes = c.st.routes
  refl _ := ⟨rfl, rfl⟩
  trans h1 h2 := ⟨h2.1.trans h1.1, h2.2.trans h1.2⟩

def Write.keepsRoutes : Write → Prop
  | .route _ | .publish .. | .start .. => False
  | _ => True

theorem Write.cr : ∀ (c : Cond) (w : Write), w.keepsRoutes → crPre.R c (w.apply c) :=
  Write.of_fine_in (fun _ => trivial) (fun _ => trivial) (fun _ _ => trivial) fun c w hf hk => by
    show (w.apply c).st.contexts = c.st.contexts ∧ (w.apply c).st.routes = c.st.routes
    cases w with
    | log e => rw [Write.log_st]; exact ⟨rfl, rfl⟩
    | staged u => obtain ⟨l, h⟩ := u.apply_eq c.st; show (u.apply c.st).contexts = _ ∧ (u.apply c.st).routes = _; rw [h]; exact ⟨rfl, rfl⟩
    | appendRec r k => exact ⟨WState.setTask_contexts .., WState.setTask_routes ..⟩
    | _ => first | exact hf.elim | exact hk.elim | exact ⟨rfl, rfl⟩

theorem logError_cr (k a b c) : Rel crPre (logError k a b c) :=
  (logError_run (G := fun _ => Write.keepsRoutes) k a b c fun _ _ => trivial).of_run Write.cr

theorem requestRerun_cr (reqs) : Rel crPre (requestRerun E reqs) :=
  (requestRerun_writes E reqs).of_run fun c w hw => Write.cr c w (by
    cases w with
    | route | publish | start => exact hw
    | _ => trivial)

def Rec.noStatus (r : Rec) : Rec := { r with status := none }

structure Frame (c c' : Cond) : Prop where
  spec : c'.spec = c.spec
  graph : c'.graph = c.graph
  output : c'.output = c.output
  contexts : c'.st.contexts = c.st.contexts
  routes : c'.st.routes = c.st.routes
  staged : c'.st.staged = c.st.staged
  tasks : c'.st.tasks = c.st.tasks
  reruns : c'.st.reruns = c.st.reruns
  pubLog : c'.st.pubLog = c.st.pubLog
  records : c'.st.sequence.map Rec.noStatus = c.st.sequence.map Rec.noStatus

def frPre : Pre where
  R := Frame
  refl _ := ⟨rfl, rfl, rfl, rfl, rfl, rfl, rfl, rfl, rfl, rfl⟩
  trans h1 h2 := ⟨h2.spec.trans h1.spec, h2.graph.trans h1.graph, h2.output.trans h1.output,
    h2.contexts.trans h1.contexts, h2.routes.trans h1.routes, h2.staged.trans h1.staged,
    h2.tasks.trans h1.tasks, h2.reruns.trans h1.reruns, h2.pubLog.trans h1.pubLog, h2.records.trans h1.records⟩

/-- what a status request writes, with what the state machines refine to -/
def Write.statusOnly : Write → Prop
  | .wfReq _ | .tkReq .. | .status _ | .log _ | .record _ (.status _) => True
  | _ => False

theorem Write.frame : ∀ (c : Cond) (w : Write), w.statusOnly → Frame c (w.apply c) :=
  Write.of_fine_in (P := frPre) (fun _ => trivial) (fun _ => trivial) (fun _ _ => trivial) fun c w hf hw => by
    cases w with
    | log e =>
      show Frame c (if _ then c else _)
      split <;> exact ⟨rfl, rfl, rfl, rfl, rfl, rfl, rfl, rfl, rfl, rfl⟩
    | status s => exact ⟨rfl, rfl, rfl, rfl, rfl, rfl, rfl, rfl, rfl, rfl⟩
    | record i u => cases u with
      | status s =>
        exact ⟨rfl, rfl, rfl, rfl, rfl, rfl, rfl, rfl, rfl,
          WState.updateRec_map Rec.noStatus (g := (RecUpd.status s).apply) (fun _ => rfl) _ i⟩
      | _ => exact hw.elim
    | _ => first | exact hf.elim | exact hw.elim

theorem requestStatus_fr (req) : Rel frPre (requestStatus req) :=
  (requestStatus_writes req).of_run fun c w hw => Write.frame c w (by
    cases w with
    | wfReq | tkReq => trivial
    | _ => exact hw.elim)

end Orq
