/-
Which writes each function of the conductor model performs: one inspection of the model, for every
evaluator.  The sets of writes (`Write.fails`, `Write.query`, …) are those of the API operations
and of the few internal functions that several operations share.  The walk is the tactic
`writes_walk`; at the end, the same for the API: the blank conductor `init` starts from, the
writes of each operation (`Op.writes`), histories as runs (`runOps_run`), and what sets the
histories of a provider apart (`Op.notRetryEvent`).
-/
import OrqModel.Proofs.Write
import OrqModel.Model.Ops

namespace Orq

variable (E : Evaluator)

namespace Write

/-- a request for workflow status `req`: the event on the active task records and on the workflow -/
def isReq (req : Status) : Write → Prop
  | wfReq r | tkReq _ r => r = req
  | _ => False

/-- `logError …; failOnError` -/
def fails : Write → Prop
  | log _ => True
  | wfReq r | tkReq _ r => r = .failed
  | _ => False

/-- rendering one staged entry for `get_next_tasks`: its `items` bookkeeping and the error log -/
def looks : Write → Prop
  | staged (.items ..) | log _ => True
  | _ => False

/-- `get_next_tasks`: the `items` bookkeeping of staged entries, and error handling -/
def query : Write → Prop
  | staged (.items ..) => True
  | w => fails w

def render : Write → Prop
  | output _ => True
  | w => fails w

/-- `noteEvent`: the staged entry of the reported task and the error log -/
def notes : Write → Prop
  | staged (.items ..) | staged (.remove _) | log _ => True
  | _ => False

/-- writes that no invariant of the records and staged entries restricts: flags and items of staged
    entries, removal of an entry, the terminal flag of a record, a new route, error handling, the
    workflow state machine on a task event -/
def quiet : Write → Prop
  | staged (.items ..) | staged (.ready ..) | staged (.completed ..) | staged (.runOnFail _) | staged (.remove _) => True
  | record _ (.term _) | route _ | wfTask .. => True
  | w => fails w

/-- `add_task_state`: a new record, of which `P` holds, and error handling -/
def adds (P : TaskKey → Rec → Prop) : Write → Prop
  | appendRec r k => P k r
  | w => fails w

/-- the record `add_task_state` builds for some arguments -/
def newRec (k : TaskKey) (r : Rec) : Prop := ∃ c a b, r = (newRecord E c k a b).1

/-- staging the target of a transition -/
def stages : Write → Prop
  | route _ | staged (.arrive ..) | staged (.add _) | staged (.ready ..) => True
  | _ => False

/-- the task state machine on a record, and the re-staging of a retried one -/
def steps : Write → Prop
  | tkEv .. | record _ (.retry _) | staged (.remove _) | staged (.add _) => True
  | _ => False

/-- the first half of `update_task_state` -/
abbrev heads (w : Write) : Prop := adds (newRec E) w ∨ notes w ∨ steps w

/-- `update_task_state` -/
def report : Write → Prop
  | dropErrors _ | output _ | rerun _ | status _ | start .. => False
  | wfReq r | tkReq _ r => r = .failed
  | appendRec r k => newRec E k r
  | _ => True

def reruns : Write → Prop
  | dropErrors _ | output _ | rerun _ | status _ => True
  | record _ (.term _) | staged (.completed ..) | staged (.items ..) | staged (.add _) => True
  | w => adds (newRec E) w

def inits : Write → Prop
  | start .. => True
  | w => fails w

theorem isReq_fails {w : Write} (h : isReq .failed w) : fails w := by
  cases w <;> first | exact h | cases h
theorem looks_query {w : Write} (h : looks w) : query w := by
  cases w with
  | staged u => cases u <;> first | trivial | cases h
  | _ => first | trivial | cases h
theorem fails_query {w : Write} (h : fails w) : query w := by
  cases w <;> first | exact h | cases h
theorem fails_render {w : Write} (h : fails w) : render w := by
  cases w <;> first | exact h | cases h
theorem notes_quiet {w : Write} (h : notes w) : quiet w := by
  cases w with
  | staged u => cases u <;> first | trivial | cases h
  | _ => first | trivial | cases h
theorem fails_quiet {w : Write} (h : fails w) : quiet w := by
  cases w <;> first | exact h | cases h
theorem fails_adds {P : TaskKey → Rec → Prop} {w : Write} (h : fails w) : adds P w := by
  cases w <;> first | exact h | cases h
theorem adds_mono {P Q : TaskKey → Rec → Prop} (hPQ : ∀ k r, P k r → Q k r) {w : Write} (h : adds P w) : adds Q w := by
  cases w <;> first | exact h | exact hPQ _ _ h
theorem fails_inits {w : Write} (h : fails w) : inits w := by
  cases w <;> first | exact h | cases h
theorem adds_report {w : Write} (h : adds (newRec E) w) : report E w := by
  cases w <;> first | exact h | cases h
theorem adds_reruns {w : Write} (h : adds (newRec E) w) : reruns E w := by
  cases w <;> first | exact h | cases h
theorem quiet_report {w : Write} (h : quiet w) : report E w := by
  cases w with
  | staged u => trivial
  | record i u => trivial
  | _ => first | exact h | trivial | cases h
theorem stages_report {w : Write} (h : stages w) : report E w := by
  cases w with
  | staged u => trivial
  | _ => first | trivial | cases h
theorem heads_report {w : Write} (h : heads E w) : report E w := by
  obtain h | h | h := h
  · exact adds_report E h
  · exact quiet_report E (notes_quiet h)
  · cases w with
    | staged u => trivial
    | record i u => trivial
    | _ => first | trivial | cases h

end Write

section leaves

variable {G : Cond → Write → Prop}

theorem logEntry_run (e : ErrEntry) (h : ∀ c, G c (.log e)) : Rel (runPre G) (logEntry e) :=
  Rel.modify_write (.log e) h fun _ => rfl

theorem logError_run (k a b t) (h : ∀ c e, G c (.log e)) : Rel (runPre G) (logError k a b t) :=
  logEntry_run _ fun c => h c _

theorem wfProcessTaskEvent_run (k ev) (h : ∀ c, G c (.wfTask k ev)) : Rel (runPre G) (wfProcessTaskEvent k ev) :=
  ⟨fun c => Run.single (.wfTask k ev) (h c)⟩

theorem wfProcessWorkflowEvent_run (req) (h : ∀ c, G c (.wfReq req)) :
    Rel (runPre G) (wfProcessWorkflowEvent req) :=
  ⟨fun c => Run.single (.wfReq req) (h c)⟩

theorem tkProcessWorkflowEvent_run (i req) (h : ∀ c, G c (.tkReq i req)) :
    Rel (runPre G) (tkProcessWorkflowEvent i req) :=
  ⟨fun c => Run.single (.tkReq i req) (h c)⟩

theorem tkProcessEvent_run (i ev) (h : ∀ c, G c (.tkEv i ev)) : Rel (runPre G) (tkProcessEvent i ev) :=
  ⟨fun c => Run.single (.tkEv i ev) (h c)⟩

theorem Rel.staged_write {f : WState → WState} (u : StgUpd) (hw : ∀ c, G c (.staged u)) (h : ∀ st, f st = u.apply st) :
    Rel (runPre G) (M.modifySt f) :=
  Rel.modifySt_write (.staged u) hw fun c => by show _ = ({ c with st := u.apply c.st } : Cond); rw [h]

theorem Rel.record_write {f : WState → WState} (i : Nat) (u : RecUpd) (hw : ∀ c, G c (.record i u))
    (h : ∀ st, f st = st.updateRec i u.apply) : Rel (runPre G) (M.modifySt f) :=
  Rel.modifySt_write (.record i u) hw fun c => by show _ = ({ c with st := c.st.updateRec i u.apply } : Cond); rw [h]

end leaves

/-- The walk over a model function whose writes lie in the set `F` of the goal: the rules of
    `Rel.lean` follow the syntax; a state update is matched against the writes it can be; `ts` are the
    facts about the functions called.  Rules and facts are chosen by the head of the computation, so
    they are tried at reducible transparency (at default transparency one that does not apply is
    refuted only after unfolding callee and goal side by side), and the writes only on a goal that is
    a state update; the side conditions of a write, `F w` and `f st = w.apply st`, are left to
    evaluation. -/
syntax "writes_walk" "[" term,* "]" : tactic
macro_rules
  | `(tactic| writes_walk [$ts,*]) => do
    let alts ← ts.getElems.mapM fun t => `(tactic| exact $t)
    `(tactic| repeat' (first
      | with_reducible (first
        | exact Rel.pure _ | exact Rel.pure' _ | exact Rel.throw _ | exact Rel.get
        | exact Rel.liftOpt _ _ | exact Rel.liftExcept _
        $[| $alts:tactic]*
        | apply Rel.bind | apply Rel.bind' | apply Rel.tryCatch | apply Rel.ite
        | apply Rel.forEach | apply Rel.foldM' | apply Rel.mapM'
        | intro _)
      | (with_reducible show Rel _ (M.modifySt _)) <;> (first
        | exact Rel.staged_write (.items _ fun _ => some _) (fun _ => trivial) (fun _ => rfl)
        | exact Rel.staged_write (.items _ fun o => o.map _) (fun _ => trivial) (fun _ => rfl)
        | exact Rel.staged_write (.ready _ _) (fun _ => trivial) (fun _ => rfl)
        | exact Rel.staged_write (.completed _ _) (fun _ => trivial) (fun _ => rfl)
        | exact Rel.staged_write (.runOnFail _) (fun _ => trivial) (fun _ => rfl)
        | exact Rel.staged_write (.arrive _ _ _ _) (fun _ => trivial) (fun _ => rfl)
        | exact Rel.staged_write (.add _) (fun _ => trivial) (fun _ => rfl)
        | exact Rel.staged_write (.remove _) (fun _ => trivial) (fun _ => rfl)
        | exact Rel.record_write _ (.decide _ _) (fun _ => trivial) (fun _ => rfl)
        | exact Rel.record_write _ (.term _) (fun _ => trivial) (fun _ => rfl)
        | exact Rel.modifySt_write (.route _) (fun _ => trivial) (fun _ => rfl)
        | exact Rel.modifySt_write (.publish _ _ _ _) (fun _ => trivial) (fun _ => rfl)
        | exact Rel.modifySt_write (.rerun _) (fun _ => trivial) (fun _ => rfl)
        | exact Rel.modifySt_write (.status _) (fun _ => trivial) (fun _ => rfl))
      | (with_reducible show Rel _ (M.modify _)) <;> (first
        | exact Rel.modify_write (.output _) (fun _ => trivial) (fun _ => rfl)
        | exact Rel.modify_write (.dropErrors _) (fun _ => trivial) (fun _ => rfl))
      | (with_reducible first
          | apply logError_run | apply logEntry_run | apply wfProcessTaskEvent_run | apply tkProcessEvent_run) <;>
        (intros; trivial)
      | split | dsimp only))

/- The functions that write nothing: any preorder holds across them. -/

section pure

variable {P : Pre}

theorem getTask_rel (k) : Rel P (getTask E k) := by
  unfold getTask
  writes_walk []

theorem makeTaskContext_rel (k idx r) : Rel P (makeTaskContext k idx r) := by
  unfold makeTaskContext
  writes_walk []

theorem terminalContext_rel : Rel P terminalContext := by
  unfold terminalContext
  writes_walk []

end pure

theorem requestStatus_writes (req) : Writes (Write.isReq req) (requestStatus req) := by
  have htk i : Writes (Write.isReq req) (tkProcessWorkflowEvent i req) := tkProcessWorkflowEvent_run i req fun _ => rfl
  have hwf : Writes (Write.isReq req) (wfProcessWorkflowEvent req) := wfProcessWorkflowEvent_run req fun _ => rfl
  unfold requestStatus
  writes_walk [htk _, hwf]

theorem failOnError_writes : Writes Write.fails failOnError := by
  unfold failOnError
  writes_walk [(requestStatus_writes .failed).mono fun _ _ => Write.isReq_fails]

theorem evaluateTaskActions_writes (o) : Writes Write.looks (evaluateTaskActions o) := by
  unfold evaluateTaskActions
  writes_walk []

theorem nextTaskFor_writes (sx) : Writes Write.looks (nextTaskFor E sx) := by
  unfold nextTaskFor
  writes_walk [getTask_rel E _, evaluateTaskActions_writes _]

theorem nextFrom_writes (todo) : Writes Write.query (nextFrom E todo) := by
  unfold nextFrom
  writes_walk [(nextTaskFor_writes E _).mono fun _ _ => Write.looks_query,
    failOnError_writes.mono fun _ _ => Write.fails_query]

theorem getNextTasks_writes : Writes Write.query (getNextTasks E) :=
  ⟨fun c => (nextFrom_writes E (nextTodo c.st)).run c⟩

theorem renderOutput_writes : Writes Write.render (renderOutput E) := by
  unfold renderOutput
  writes_walk [terminalContext_rel, failOnError_writes.mono fun _ _ => Write.fails_render]

theorem evaluateRoute_writes (e r) : Writes Write.quiet (evaluateRoute e r) := by
  unfold evaluateRoute
  writes_walk []

theorem noteEvent_writes (k s ev) : Writes Write.notes (noteEvent k s ev) := by
  unfold noteEvent
  writes_walk []

theorem completedRetryDecision_writes (k idx ts os ns ev) :
    Writes Write.quiet (completedRetryDecision E k idx ts os ns ev) := by
  unfold completedRetryDecision
  writes_walk [makeTaskContext_rel _ _ _, failOnError_writes.mono fun _ _ => Write.fails_quiet]

theorem markTermIfCompleted_writes (idx) : Writes Write.quiet (markTermIfCompleted idx) := by
  unfold markTermIfCompleted
  writes_walk []

/- Three footprints are given by hand: `add_task_state`, `restageRetry` and the rerun of one task each make
   one state update that is two or three writes (a record and its task-key entry; tally, removal and new
   entry), and the walk matches a state update against single writes only. -/
theorem addTaskState_appends (k a b) :
    Writes (Write.adds fun k' r => k' = k ∧ ∃ c, r = (newRecord E c k a b).1) (addTaskState E k a b) := by
  unfold addTaskState
  refine Rel.bind Rel.get fun c => ?_
  split
  · exact Rel.throw _
  refine Rel.bind ?_ fun _ => ⟨fun c' => Run.single (.appendRec (newRecord E c k a b).1 k) ⟨rfl, c, rfl⟩⟩
  writes_walk [failOnError_writes.mono fun _ _ => Write.fails_adds]

theorem addTaskState_writes (k a b) : Writes (Write.adds (Write.newRec E)) (addTaskState E k a b) :=
  (addTaskState_appends E k a b).mono fun _ _ => Write.adds_mono fun _ _ ⟨e, c, h⟩ => e ▸ ⟨c, a, b, h⟩

theorem ensureRecord_writes (k s r ev) : Writes (Write.adds (Write.newRec E)) (ensureRecord E k s r ev) := by
  unfold ensureRecord firstRecord recordFromStaged
  writes_walk [addTaskState_writes E _ _ _]

theorem stageNext_writes (k idx e o acc) : Writes Write.stages (stageNext k idx e o acc) := by
  unfold stageNext stageTarget evaluateRoute
  writes_walk []

theorem fireTransition_writes (k idx ec acc e) : Writes (Write.report E) (fireTransition E k idx ec acc e) := by
  unfold fireTransition
  writes_walk [(stageNext_writes _ _ _ _ _).mono fun _ _ => Write.stages_report E,
    failOnError_writes.mono fun _ _ h => Write.quiet_report E (Write.fails_quiet h)]

theorem processTransition_writes (k idx ec acc e) :
    Writes (Write.report E) (processTransition E k idx ec acc e) := by
  unfold processTransition
  writes_walk [fireTransition_writes E _ _ _ _ _,
    failOnError_writes.mono fun _ _ h => Write.quiet_report E (Write.fails_quiet h)]

theorem evalTransitions_writes (k idx ts ev) : Writes (Write.report E) (evalTransitions E k idx ts ev) := by
  unfold evalTransitions
  writes_walk [makeTaskContext_rel _ _ _, processTransition_writes E _ _ _ _ _]

theorem restageRetry_writes (k idx o) : Writes Write.steps (restageRetry k idx o) := by
  unfold restageRetry
  refine Rel.bind Rel.get fun c => Rel.bind (Rel.liftOpt _ _) fun r => ?_
  split
  · refine Rel.bind (Rel.liftOpt _ _) fun rs => ⟨fun c =>
      .step (.record idx (.retry _)) trivial (.step (.staged (.remove k)) trivial (Run.single (.staged (.add _)) trivial))⟩
  · exact Rel.pure _

theorem machineStep_writes (k idx ev) : Writes Write.steps (machineStep k idx ev) := by
  unfold machineStep
  writes_walk [restageRetry_writes _ _ _]

theorem updateHead_writes (k ev) : Writes (Write.heads E) (updateHead E k ev) := by
  unfold updateHead
  writes_walk [(ensureRecord_writes E _ _ _ _).mono fun _ _ => .inl,
    (noteEvent_writes _ _ _).mono fun _ _ h => .inr (.inl h), (machineStep_writes _ _ _).mono fun _ _ h => .inr (.inr h)]

theorem updateTail_writes (recur : TaskKey → Event → M Unit) (hrec : ∀ k ev, Writes (Write.report E) (recur k ev))
    (k ev h) : Writes (Write.report E) (updateTail E recur k ev h) := by
  unfold updateTail updateRest
  writes_walk [hrec _ _, (completedRetryDecision_writes E _ _ _ _ _ _).mono fun _ _ => Write.quiet_report E,
    evalTransitions_writes E _ _ _ _, (markTermIfCompleted_writes _).mono fun _ _ => Write.quiet_report E]

theorem updateTaskStateAux_writes (fuel k ev) : Writes (Write.report E) (updateTaskStateAux E fuel k ev) := by
  induction fuel generalizing k ev with
  | zero => exact Rel.throw _
  | succ n ih =>
    exact Rel.bind ((updateHead_writes E k ev).mono fun _ _ => Write.heads_report E) fun h => updateTail_writes E _ ih k ev h

theorem updateTaskState_writes (k ev) : Writes (Write.report E) (updateTaskState E k ev) :=
  updateTaskStateAux_writes E 3 k ev

theorem requestTaskRerun_writes (k r) : Writes (Write.reruns E) (requestTaskRerun E k r) := by
  unfold requestTaskRerun
  refine Rel.bind Rel.get fun c => Rel.bind (Rel.liftOpt _ _) fun idx => Rel.bind (Rel.liftOpt _ _) fun task =>
    Rel.bind (Rel.liftOpt _ _) fun ts => Rel.bind ⟨fun c =>
      .step (.record idx (.term false)) trivial (Run.single (.staged (.completed k false)) trivial)⟩ fun _ => ?_
  writes_walk [(addTaskState_writes E _ _ _).mono fun _ _ => Write.adds_reruns E]

theorem requestRerun_writes (reqs) : Writes (Write.reruns E) (requestRerun E reqs) := by
  unfold requestRerun
  writes_walk [requestTaskRerun_writes E _ _]

/-- the conductor before its workflow state is initialised -/
def Cond.blank (spec : WfSpec) (parentCtx inputs : Val.Dict) : Cond :=
  { spec := spec, graph := compose spec, inputs := inputs, parentCtx := parentCtx }

theorem init_run (spec : WfSpec) (parentCtx inputs : Val.Dict) :
    Run (fun _ => Write.inits) (Cond.blank spec parentCtx inputs) (init E spec parentCtx inputs) := by
  have herr : Writes Write.inits (do logError "ExpressionEvaluationException"; failOnError : M Unit) := by
    writes_walk [failOnError_writes.mono fun _ _ => Write.fails_inits]
  have hend : ∀ (c' : Cond) ctx roots, Run (fun _ => Write.inits) (Cond.blank spec parentCtx inputs) c' →
      Run (fun _ => Write.inits) (Cond.blank spec parentCtx inputs)
        (if c'.st.status.isAbended then c' else (Write.start ctx roots).apply c') := by
    intro c' ctx roots h
    split
    · exact h
    · exact h.trans (Run.single (.start _ _) trivial)
  -- `init` ends `if c'.st.status.isAbended then c' else <start write on c'>`, where `c'` is the blank
  -- conductor or what the error exit made of it: `hend` is that last step for a variable `c'`, so that
  -- the error exit is not unfolded into both of its branches; `refine` matches `init` against it by unfolding
  refine hend _ _ _ ?_
  split
  · exact herr.run _
  · exact .refl _

/-- a provider never reports the engine's own retry event -/
def Op.notRetryEvent : Op → Prop
  | .report _ (.engine .retry_) => False
  | _ => True

def Op.writes : Op → Write → Prop
  | .req s => Write.isReq s
  | .next => Write.query
  | .report _ _ => Write.report E
  | .render => Write.render
  | .rerun _ => Write.reruns E

theorem runOp_run (op : Op) (c : Cond) : Run (fun _ => op.writes E) c (runOp E op c) := by
  cases op with
  | req s => exact (requestStatus_writes s).run c
  | next => exact (getNextTasks_writes E).run c
  | report k ev => exact (updateTaskState_writes E k ev).run c
  | render => exact (renderOutput_writes E).run c
  | rerun reqs => exact (requestRerun_writes E reqs).run c

theorem runOps_run {G : Cond → Write → Prop} (ops : List Op) (h : ∀ op ∈ ops, ∀ c w, op.writes E w → G c w) (c : Cond) :
    Run G c (runOps E ops c) := by
  induction ops generalizing c with
  | nil => exact .refl _
  | cons op ops ih =>
    exact ((runOp_run E op c).mono (h op List.mem_cons_self)).trans
      (ih (fun o ho => h o (List.mem_cons_of_mem _ ho)) _)

theorem runOps_rel {P : Pre} (h : ∀ c w, P.R c (Write.apply w c)) (ops : List Op) (c : Cond) : P.R c (runOps E ops c) :=
  (runOps_run E ops (G := fun _ _ => True) (fun _ _ _ _ _ => trivial) c).rel fun c w _ => h c w

end Orq
