/-
C18/C13: a record whose outbound transitions have been decided is completed, keeps its status from
then on (in particular it is never retried), and keeps its decisions.  The pointwise relations on
records and the invariant `Dec`; `Keep.lean` shows them across guarded writes.
-/
import OrqModel.Proofs.Rel

namespace Orq

/-- the records evolve pointwise by `ρ`; an appended record satisfies `ν` -/
structure RecsStep (ρ : Rec → Rec → Prop) (ν : Rec → Prop) (c c' : Cond) : Prop where
  old : ∀ (i : Nat) (r : Rec), c.st.sequence[i]? = some r → ∃ r', c'.st.sequence[i]? = some r' ∧ ρ r r'
  new : ∀ (i : Nat) (r' : Rec), c'.st.sequence[i]? = some r' → c.st.sequence[i]? = none → ν r'

namespace RecsStep

variable {ρ : Rec → Rec → Prop} {ν : Rec → Prop}

theorem refl (hρ : ∀ r, ρ r r) (c : Cond) : RecsStep ρ ν c c :=
  ⟨fun _ r h => ⟨r, h, hρ r⟩, fun _ _ h h0 => by rw [h] at h0; cases h0⟩

theorem trans (hρ : ∀ {a b c}, ρ a b → ρ b c → ρ a c) (hν : ∀ {r r'}, ν r → ρ r r' → ν r') {a b c : Cond}
    (h1 : RecsStep ρ ν a b) (h2 : RecsStep ρ ν b c) : RecsStep ρ ν a c := by
  refine ⟨fun i r hr => ?_, fun i r'' hr'' hnone => ?_⟩
  · obtain ⟨r', hr', s1⟩ := h1.old i r hr
    obtain ⟨r'', hr'', s2⟩ := h2.old i r' hr'
    exact ⟨r'', hr'', hρ s1 s2⟩
  · cases hb : b.st.sequence[i]? with
    | none => exact h2.new i r'' hr'' hb
    | some r' =>
      obtain ⟨r2, hr2, s2⟩ := h2.old i r' hb
      rw [hr''] at hr2
      cases hr2
      exact hν (h1.new i r' hb hnone) s2

/-- a property of single records that the step `ρ` keeps and an appended record has holds of all
    records afterwards -/
theorem all {P : Rec → Prop} {c c' : Cond} (h : RecsStep ρ ν c c') (hρ : ∀ r r', ρ r r' → P r → P r')
    (hν : ∀ r', ν r' → P r') (hc : ∀ r ∈ c.st.sequence, P r) : ∀ r' ∈ c'.st.sequence, P r' := by
  intro r' hr'
  obtain ⟨i, hi⟩ := List.getElem?_of_mem hr'
  cases hr : c.st.sequence[i]? with
  | none => exact hν r' (h.new i r' hi hr)
  | some r =>
    obtain ⟨r'', hr'', hs⟩ := h.old i r hr
    rw [hi] at hr''
    cases hr''
    exact hρ r r' hs (hc r (List.mem_of_getElem? hr))

end RecsStep

def Comp (r : Rec) : Prop := ∃ s, r.status = some s ∧ s.isCompleted = true

theorem Comp.of_status {r r' : Rec} (hc : Comp r) (h : r'.status = r.status) : Comp r' := by
  unfold Comp
  rw [h]
  exact hc

theorem Comp.of_getD {r : Rec} {s : Status} (h : r.status.getD .unset = s) (hc : s.isCompleted = true) : Comp r := by
  cases hs : r.status with
  | none => rw [hs] at h; subst h; cases hc
  | some s' => rw [hs] at h; exact ⟨s', hs, (show s' = s from h) ▸ hc⟩

/-- How one record may evolve: a completed *and decided* record keeps its status, a decided record
    stays decided, and a record becomes decided only in a completed status.  A completed record
    whose transitions have not been evaluated yet is not frozen: the engine's retry event reopens it. -/
structure RecStepW (r r' : Rec) : Prop where
  status : Comp r → r.next ≠ [] → r'.status = r.status
  decided : r.next ≠ [] → r'.next ≠ []
  fresh : r'.next ≠ [] → r.next ≠ [] ∨ Comp r'

theorem RecStepW.refl (r : Rec) : RecStepW r r := ⟨fun _ _ => rfl, id, fun h => .inl h⟩

theorem RecStepW.comp {r r' : Rec} (h : RecStepW r r') (hc : Comp r) (hn : r.next ≠ []) : Comp r' :=
  hc.of_status (h.status hc hn)

theorem RecStepW.trans {a b c : Rec} (h1 : RecStepW a b) (h2 : RecStepW b c) : RecStepW a c := by
  refine ⟨?_, fun h => h2.decided (h1.decided h), ?_⟩
  · intro hc hn
    rw [h2.status (h1.comp hc hn) (h1.decided hn), h1.status hc hn]
  · intro h
    rcases h2.fresh h with hb | hc
    · rcases h1.fresh hb with ha | hcb
      · exact Or.inl ha
      · exact Or.inr (h2.comp hcb hb)
    · exact Or.inr hc

theorem RecStepW.same {r r' : Rec} (h1 : r'.status = r.status) (h2 : r'.next = r.next) : RecStepW r r' :=
  ⟨fun _ _ => h1, fun h => by rw [h2]; exact h, fun h => Or.inl (by rw [← h2]; exact h)⟩

theorem RecStepW.setStatus (r : Rec) (s' : Status)
    (h : ∀ tk, r.status = some tk → tk.isCompleted = true → r.next ≠ [] → s' = tk) :
    RecStepW r { r with status := some s' } := by
  refine ⟨?_, id, fun hn => Or.inl hn⟩
  rintro ⟨tk, hs, hc⟩ hn
  show some s' = r.status
  rw [hs, h tk hs hc hn]

/-- a record that is completed once decided stays so -/
theorem RecStepW.dec {r r' : Rec} (s : RecStepW r r') (h : r.next ≠ [] → Comp r) (hn : r'.next ≠ []) : Comp r' :=
  (s.fresh hn).elim (fun h' => s.comp (h h') h') id

/-- the relation on conductor states: every record evolves by `RecStepW`, new records are undecided
    or completed -/
structure DecStepW (c c' : Cond) : Prop where
  old : ∀ (i : Nat) (r : Rec), c.st.sequence[i]? = some r → ∃ r', c'.st.sequence[i]? = some r' ∧ RecStepW r r'
  new : ∀ (i : Nat) (r' : Rec), c'.st.sequence[i]? = some r' → c.st.sequence[i]? = none → r'.next ≠ [] → Comp r'

theorem DecStepW.refl (c : Cond) : DecStepW c c :=
  have h := RecsStep.refl (ν := fun r => r.next ≠ [] → Comp r) RecStepW.refl c
  ⟨h.old, h.new⟩

theorem DecStepW.trans {a b c : Cond} (h1 : DecStepW a b) (h2 : DecStepW b c) : DecStepW a c :=
  have h := RecsStep.trans (ρ := RecStepW) (ν := fun r => r.next ≠ [] → Comp r) RecStepW.trans (fun h s => s.dec h) ⟨h1.old, h1.new⟩ ⟨h2.old, h2.new⟩
  ⟨h.old, h.new⟩

/-- decided records are completed -/
def Dec (c : Cond) : Prop := ∀ (i : Nat) (r : Rec), c.st.sequence[i]? = some r → r.next ≠ [] → Comp r

theorem Dec.stepW {c c' : Cond} (h : DecStepW c c') (hd : Dec c) : Dec c' := fun _ r' hr' =>
  RecsStep.all ⟨h.old, h.new⟩ (fun _ _ s h => s.dec h) (fun _ => id)
    (fun r hr => have ⟨j, hj⟩ := List.getElem?_of_mem hr; hd j r hj) r' (List.mem_of_getElem? hr')

theorem DecStepW.frozen {c c' : Cond} (h : DecStepW c c') (hd : Dec c) (i : Nat) (r : Rec)
    (hr : c.st.sequence[i]? = some r) (hn : r.next ≠ []) :
    ∃ r', c'.st.sequence[i]? = some r' ∧ r'.status = r.status ∧ r'.next ≠ [] := by
  obtain ⟨r', hr', s⟩ := h.old i r hr
  exact ⟨r', hr', s.status (hd i r hr hn) hn, s.decided hn⟩

/-- the record at `i`, if there is one, holds no decision yet -/
def Undecided (c : Cond) (i : Nat) : Prop := ∀ r, c.st.sequence[i]? = some r → r.next = []

/-- every record keeps its decisions (pointwise; new records may appear) -/
structure NxAll (c c' : Cond) : Prop where
  keep : ∀ (i : Nat) (r : Rec), c.st.sequence[i]? = some r → ∃ r', c'.st.sequence[i]? = some r' ∧ r'.next = r.next

def nxaPre : Pre where
  R := NxAll
  refl c := ⟨fun i r h => ⟨r, h, rfl⟩⟩
  trans := by
    intro a b c h1 h2
    constructor
    intro i r hr
    obtain ⟨r', hr', e1⟩ := h1.keep i r hr
    obtain ⟨r'', hr'', e2⟩ := h2.keep i r' hr'
    exact ⟨r'', hr'', e2.trans e1⟩

/-- recorded decisions stay recorded -/
structure MK (c c' : Cond) : Prop where
  keep : ∀ (i : Nat) (r : Rec) (m : TransId × Bool), c.st.sequence[i]? = some r → m ∈ r.next →
    ∃ r', c'.st.sequence[i]? = some r' ∧ m ∈ r'.next

theorem MK.trans {a b c : Cond} (h1 : MK a b) (h2 : MK b c) : MK a c := by
  constructor
  intro i r m hr hm
  obtain ⟨r', hr', hm'⟩ := h1.keep i r m hr hm
  exact h2.keep i r' m hr' hm'

/-- a decided record keeps its decisions (an undecided one may gain some) -/
structure NK (c c' : Cond) : Prop where
  keep : ∀ (i : Nat) (r : Rec), c.st.sequence[i]? = some r → r.next ≠ [] →
    ∃ r', c'.st.sequence[i]? = some r' ∧ r'.next = r.next

theorem NK.refl (c : Cond) : NK c c := ⟨fun _ r h _ => ⟨r, h, rfl⟩⟩

theorem NK.trans {a b c : Cond} (h1 : NK a b) (h2 : NK b c) : NK a c := by
  constructor
  intro i r hr hn
  obtain ⟨r', hr', e1⟩ := h1.keep i r hr hn
  obtain ⟨r'', hr'', e2⟩ := h2.keep i r' hr' (by rw [e1]; exact hn)
  exact ⟨r'', hr'', e2.trans e1⟩

end Orq
