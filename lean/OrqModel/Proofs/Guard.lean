/-
The licence each write of `update_task_state` and of a rerun comes with: what the engine has
established about the state at the moment it performs the write.  `Proofs/Reach.lean` shows that
every API call is a run of writes under this guard; every history invariant is then a fact about
single guarded writes.

Some clauses rest on what the call may assume of the state it starts in (`Assume`): a sound task-key
map (`tk`), a retry event that comes with attempts left (`lic`), or the history invariants `Inv0`
together with a retry event that meets an undecided record (`full`).  Along the histories of a
provider all three hold; the step theorems of C13 assume `lic` only, the theorems that hold for
every history whatsoever (`NE`, `IN`) at most `tk`.
-/
import OrqModel.Proofs.Retry13
import OrqModel.Proofs.Invariants
import OrqModel.Properties.Keys

namespace Orq

/-- What a call may assume of the state it starts in.  The three are propositions, not booleans, so
    that a clause of the guard can be stated under one of them (`a.full → …`) and a theorem be
    proved for the strength it needs. -/
structure Assume where
  /-- the task-key map points at records of its task (`TK`) -/
  tk : Prop
  /-- the engine's retry event comes for a record with attempts left -/
  lic : Prop
  /-- the history invariants `Inv0` hold, and the retry event meets an undecided record -/
  full : Prop
  full_tk : full → tk

/-- every assumption, as along the histories of a provider -/
def Assume.all : Assume := ⟨True, True, True, id⟩

/-- no assumption: every call, on every state -/
def Assume.nothing : Assume := ⟨False, False, False, False.elim⟩

def Assume.taskMap : Assume := ⟨True, False, False, False.elim⟩

def Assume.licence : Assume := ⟨False, True, False, False.elim⟩

/-- the publication log names only transitions that were decided true -/
def Logged (c : Cond) : Prop := ∀ m ∈ c.st.pubLog, Recorded c m.1 (m.2.1, true)

/-- the invariants the `full` clauses of the guard are derived from -/
structure Inv0 (c : Cond) : Prop where
  dec : Dec c
  tk : TK c
  gk : KeysOk c.graph.edges
  jt : JT c
  logged : Logged c

variable (a : Assume)

/-- a transition into task `id`, decided true by record `idx`, hands over the snapshots `outIdxs`:
    those the record was rendered from and, if it published on the way, that snapshot -/
def Arrival (c : Cond) (id : String) (backref : TransId) (idx : Nat) (outIdxs : List Nat) : Prop :=
  ∃ r, c.st.sequence[idx]? = some r ∧ Comp r ∧ (((id, backref.2) : TransId), true) ∈ r.next ∧
    (∀ i ∈ r.ctxsIn, i ∈ outIdxs) ∧
    (∀ i ∈ outIdxs, i ∈ r.ctxsIn ∨ (idx, ((id, backref.2) : TransId), i) ∈ c.st.pubLog) ∧
    (a.full → ∀ i, (idx, ((id, backref.2) : TransId), i) ∈ c.st.pubLog → i ∈ outIdxs)

section

variable {a} {c : Cond} {id : String} {backref : TransId} {idx : Nat} {outIdxs : List Nat}

theorem Arrival.recorded (h : Arrival a c id backref idx outIdxs) : Recorded c idx ((id, backref.2), true) := by
  obtain ⟨r, hr, _, hm, _⟩ := h
  exact ⟨r, hr, hm⟩

theorem Arrival.doneAt (h : Arrival a c id backref idx outIdxs) :
    ∃ q, c.st.sequence[idx]? = some q ∧ Comp q ∧ q.next ≠ [] := by
  obtain ⟨r, hr, hc, hm, _⟩ := h
  exact ⟨r, hr, hc, List.ne_nil_of_mem hm⟩

theorem Arrival.ctxOk (h : Arrival a c id backref idx outIdxs) : CtxOk c id outIdxs := by
  obtain ⟨r, hr, _, hm, _, hout, _⟩ := h
  exact fun i hi => .inr ⟨idx, r, backref.2, hr, hm, hout i hi⟩

theorem Arrival.inh (h : Arrival a c id backref idx outIdxs) (hi : IN c) :
    0 ∈ outIdxs ∧ ∃ q, c.st.sequence[idx]? = some q ∧ ∀ i ∈ q.ctxsIn, i ∈ outIdxs := by
  obtain ⟨r, hr, _, _, hsub, _⟩ := h
  exact ⟨hsub 0 (hi.recs r (List.mem_of_getElem? hr)).1, r, hr, hsub⟩

theorem Arrival.logged (h : Arrival a c id backref idx outIdxs) (hf : a.full) :
    ∀ i, (idx, ((id, backref.2) : TransId), i) ∈ c.st.pubLog → i ∈ outIdxs := by
  obtain ⟨_, _, _, _, _, _, h⟩ := h
  exact h hf

end

/-- `prev` and `cs` are the lists of a record of task `id` -/
def OfRec (c : Cond) (id : String) (prev : List (TransId × Nat)) (cs : List Nat) : Prop :=
  ∃ (i : Nat) (r : Rec), c.st.sequence[i]? = some r ∧ r.prev = prev ∧ r.ctxsIn = cs ∧ (a.tk → r.id = id)

/-- where the lists of a new record of task `id` come from: a staged entry of the task, or a record of it -/
def Src (c : Cond) (id : String) (prev : List (TransId × Nat)) (cs : List Nat) : Prop :=
  (∃ x ∈ c.st.staged, x.id = id ∧ x.prev = prev ∧ x.ctxsIn = cs) ∨ OfRec a c id prev cs

theorem Src.mono {a} {c c' : Cond} (hs : c'.st.staged = c.st.staged) (he : c.st.Ext c'.st) {id : String}
    {prev : List (TransId × Nat)} {ctxsIn : List Nat} (h : Src a c id prev ctxsIn) : Src a c' id prev ctxsIn := by
  obtain ⟨x, hx, h⟩ | ⟨i, q, hq, e1, e2, e3⟩ := h
  · exact .inl ⟨x, hs ▸ hx, h⟩
  · obtain ⟨q', hq', hc⟩ := he.getElem_core hq
    exact .inr ⟨i, q', hq', (Rec.core_prev hc).trans e1, (Rec.core_ctxsIn hc).trans e2, fun ht => (Rec.core_id hc).trans (e3 ht)⟩

/-- what `add_task_state` appends: a blank record of the task, with the lists of its staged entry or of
    the record it reruns -/
structure NewRec (c : Cond) (k : TaskKey) (r : Rec) : Prop where
  id : r.id = k.1
  next : r.next = []
  retryOk : RetryOk r
  src : ∃ cs, Src a c k.1 r.prev cs ∧ r.ctxsIn = (if cs.isEmpty then [0] else cs)

/-- `c0` is the state the API call started in -/
def Guard (c0 c : Cond) : Write → Prop
  -- of the task machine's answers only the one to the engine's retry event reopens a completed record
  -- (`tbl_tk_engine`): it must find attempts left and, along histories, no decision recorded yet
  | .tkEv i ev => ev = .engine .retry_ → ∀ r, c.st.sequence[i]? = some r →
      (r.status = some .succeeded ∨ r.status = some .failed) → (a.lic → CanBumpRec r) ∧ (a.full → r.next = [])
  -- `evalTransitions`: on a completed record, for an edge that leaves its task, under a key not decided
  -- before, and never on a record that was decided when the call began
  | .record i (.decide tid _) => ∃ r, c.st.sequence[i]? = some r ∧ Comp r ∧
      (a.tk → EdgeOf c r.id tid) ∧ (a.full → (∀ m ∈ r.next, m.1 ≠ tid) ∧ Undecided c0 i)
  -- `restageRetry`: the tally goes up by one, on a record with attempts left
  | .record i (.retry rs') => ∃ r rs, c.st.sequence[i]? = some r ∧ r.retry = some rs ∧
      rs' = { rs with tally := rs.tally + 1 } ∧ (a.lic → CanBumpRec r)
  | .record _ (.term _) => True
  -- the status of a record is written by the task machine only
  | .record _ (.status _) => False
  -- `stageTarget`, at an entry that is staged already: the context list grows by what arrives, but for one `0`
  -- (`out_ctx_idxs.remove(0)`, conducting.py:1059: the entry lists the initial context already)
  | .staged (.arrive k rest backref idx) => ∃ outIdxs, Arrival a c k.1 backref idx outIdxs ∧ eraseFirst outIdxs 0 = some rest
  -- a new entry: of `stageTarget`, with the lists of the arrival, or of `restageRetry` and the rerun, with
  -- those of the record that runs again; an empty context list becomes `[0]` (`add_staged_task`,
  -- `add_task_state`: `if not ctxs: ctxs = [0]`)
  | .staged (.add x) =>
      (∃ backref idx outIdxs, Arrival a c x.id backref idx outIdxs ∧ x.prev = [(backref, idx)] ∧
        x.ctxsIn = (if outIdxs.isEmpty then [0] else outIdxs)) ∨
      ∃ cs, OfRec a c x.id x.prev cs ∧ x.ctxsIn = (if cs.isEmpty then [0] else cs)
  | .appendRec r k => NewRec a c k r
  -- `fireTransition`: the transition was decided true, and nobody lists it yet
  | .publish idx tid _ _ => Recorded c idx (tid, true) ∧ (a.full → NoRef c idx tid)
  | _ => True

variable {a} {c0 c : Cond}

theorem Guard.decide {i : Nat} {tid : TransId} {b : Bool} {r : Rec} (hg : Guard a c0 c (.record i (.decide tid b)))
    (hr : c.st.sequence[i]? = some r) :
    Comp r ∧ (a.tk → EdgeOf c r.id tid) ∧ (a.full → (∀ m ∈ r.next, m.1 ≠ tid) ∧ Undecided c0 i) := by
  obtain ⟨r', hr', h⟩ := hg
  rw [hr] at hr'
  cases hr'
  exact h

theorem Guard.bump {i : Nat} {rs' : RetryState} {r : Rec} (hg : Guard a c0 c (.record i (.retry rs')))
    (hr : c.st.sequence[i]? = some r) :
    ∃ rs, r.retry = some rs ∧ rs' = { rs with tally := rs.tally + 1 } ∧ (a.lic → CanBumpRec r) := by
  obtain ⟨r', rs, hr', h⟩ := hg
  rw [hr] at hr'
  cases hr'
  exact ⟨rs, h⟩

end Orq
