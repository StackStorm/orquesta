/-
C19: asking for the next tasks is a query.  The only part of the workflow state `get_next_tasks`
touches — unless it logs a rendering error and fails the workflow — is the `items` bookkeeping of
the staged with-items entries it looks at.  Read off the closed form through that frame: the context
an offered task is rendered with is the overlay of exactly the snapshots its staged entry lists, on
the state the query was asked in (C06, the first link), and the delay a re-offered task carries (C13).
-/
import OrqModel.Proofs.Footprint
import OrqModel.Proofs.NextRun

namespace Orq

variable (E : Evaluator)

def Staged.dropItems (x : Staged) : Staged := { x with items := none }

def SameButItems (st st' : WState) : Prop :=
  st'.contexts = st.contexts ∧ st'.routes = st.routes ∧ st'.sequence = st.sequence ∧ st'.tasks = st.tasks ∧
  st'.reruns = st.reruns ∧ st'.status = st.status ∧
  st'.staged.map Staged.dropItems = st.staged.map Staged.dropItems

theorem SameButItems.refl (st : WState) : SameButItems st st := ⟨rfl, rfl, rfl, rfl, rfl, rfl, rfl⟩

theorem SameButItems.trans {a b c : WState} (h1 : SameButItems a b) (h2 : SameButItems b c) : SameButItems a c :=
  ⟨h2.1.trans h1.1, h2.2.1.trans h1.2.1, h2.2.2.1.trans h1.2.2.1, h2.2.2.2.1.trans h1.2.2.2.1,
   h2.2.2.2.2.1.trans h1.2.2.2.2.1, h2.2.2.2.2.2.1.trans h1.2.2.2.2.2.1, h2.2.2.2.2.2.2.trans h1.2.2.2.2.2.2⟩

theorem SameButItems.symm {a b : WState} (h : SameButItems a b) : SameButItems b a :=
  ⟨h.1.symm, h.2.1.symm, h.2.2.1.symm, h.2.2.2.1.symm, h.2.2.2.2.1.symm, h.2.2.2.2.2.1.symm, h.2.2.2.2.2.2.symm⟩

theorem SameButItems.updateItems (st : WState) (k : TaskKey) (g : Option (List Status) → Option (List Status)) :
    SameButItems st (st.updateStaged k fun x => { x with items := g x.items }) :=
  ⟨rfl, rfl, rfl, rfl, rfl, rfl, WState.updateStaged_map Staged.dropItems (f := fun x => { x with items := g x.items }) (fun _ => rfl) st k⟩

theorem SameButItems.setItems (st : WState) (k : TaskKey) (items : List Status) :
    SameButItems st (setItems st k items) := .updateItems st k fun _ => some items

namespace SameButItems

variable {st st' : WState} (h : SameButItems st st')
include h

theorem contexts : st'.contexts = st.contexts := h.1
theorem routes : st'.routes = st.routes := h.2.1
theorem sequence : st'.sequence = st.sequence := h.2.2.1
theorem tasks : st'.tasks = st.tasks := h.2.2.2.1
theorem reruns : st'.reruns = st.reruns := h.2.2.2.2.1
theorem status : st'.status = st.status := h.2.2.2.2.2.1
theorem staged : st'.staged.map Staged.dropItems = st.staged.map Staged.dropItems := h.2.2.2.2.2.2

end SameButItems

theorem getStaged?_dropItems {st st' : WState} (h : SameButItems st st') (k : TaskKey) :
    (st'.getStaged? k).map Staged.dropItems = (st.getStaged? k).map Staged.dropItems := by
  have := congrArg (List.find? (matchesKey k)) h.staged
  rw [List.find?_map, List.find?_map] at this
  exact this

theorem getStaged?_exists {st st' : WState} (h : SameButItems st st') (k : TaskKey) (x : Staged)
    (hx : st.getStaged? k = some x) : ∃ y, st'.getStaged? k = some y ∧ y.ctxsIn = x.ctxsIn := by
  have := getStaged?_dropItems h k
  rw [hx] at this
  cases hy : st'.getStaged? k with
  | none => rw [hy] at this; cases this
  | some y =>
    rw [hy] at this
    have h2 : y.dropItems.ctxsIn = x.dropItems.ctxsIn := congrArg Staged.ctxsIn (Option.some.inj this)
    exact ⟨y, rfl, h2⟩

theorem taskContext_congr {st st' : WState} (h : SameButItems st st') (idxs : List Nat) :
    st'.taskContext idxs = st.taskContext idxs := by
  unfold WState.taskContext
  rw [h.contexts]

theorem taskCtxIdxs_congr {st st' : WState} (h : SameButItems st st') (k : TaskKey) :
    taskCtxIdxs st' k = taskCtxIdxs st k := by
  have hr : st'.getRec? k = st.getRec? k := by
    unfold WState.getRec? WState.taskIdx?
    rw [h.tasks, h.sequence]
  unfold taskCtxIdxs
  rw [hr]
  cases h1 : st.getStaged? k with
  | some x =>
    obtain ⟨y, hy, hc⟩ := getStaged?_exists h k x h1
    simp only [hy, hc]
  | none =>
    cases h2 : st'.getStaged? k with
    | none => rfl
    | some y =>
      obtain ⟨_, hx, _⟩ := getStaged?_exists h.symm k y h2
      rw [h1] at hx
      cases hx

/-- equal up to the `items` of staged entries (and the conductor's error log) -/
def qPre : Pre where
  R c c' := c'.spec = c.spec ∧ c'.graph = c.graph ∧ c'.output = c.output ∧ SameButItems c.st c'.st
  refl _ := ⟨rfl, rfl, rfl, .refl _⟩
  trans h1 h2 := ⟨h2.1.trans h1.1, h2.2.1.trans h1.2.1, h2.2.2.1.trans h1.2.2.1, h1.2.2.2.trans h2.2.2.2⟩

theorem Write.q (c : Cond) (w : Write) (h : w.looks) : qPre.R c (w.apply c) := by
  cases w with
  | log e =>
    show qPre.R c (if _ then c else _)
    split <;> exact ⟨rfl, rfl, rfl, .refl _⟩
  | staged u => cases u with
    | items k g =>
      exact ⟨rfl, rfl, rfl, .updateItems c.st k g⟩
    | _ => exact h.elim
  | _ => exact h.elim

theorem nextTaskFor_q (sx) : Rel qPre (nextTaskFor E sx) := (nextTaskFor_writes E sx).of_run Write.q

theorem nextLoop_q (l : List Staged) (acc : List Offer × Bool) : Rel qPre (nextLoop E l acc) :=
  Rel.foldM' _ _ fun _ sx => Rel.bind (nextTaskFor_q E sx) fun ⟨_, _⟩ => Rel.pure _

/-- **C19**: whenever `get_next_tasks` returns at least one task it has changed nothing but the
    `items` bookkeeping of staged with-items entries (and possibly nothing at all): records,
    contexts, routes, task map, rerun log, workflow status, output, and every other field of every
    staged entry are as before -/
theorem getNextTasks_query (c c' : Cond) (r : List Offer) (h : getNextTasks E c = (.ok r, c'))
    (hr : r ≠ []) : qPre.R c c' := by
  obtain ⟨offs, hloop, -⟩ := nextFrom_ok_ne E h hr
  have hq := (nextLoop_q E (nextTodo c.st) ([], false)).run c
  rwa [hloop] at hq

/-- every offer is rendered, in the state the query was asked in, from the snapshots listed for its
    key: the entries before it in the list change nothing an entry is rendered from -/
theorem nextFrom_ctx (todo : List Staged) (c c' : Cond) (offers : List Offer)
    (h : nextFrom E todo c = (.ok offers, c')) :
    ∀ o ∈ offers, c.st.taskContext (taskCtxIdxs c.st (o.id, o.route)) = .ok o.ctx := by
  intro o ho
  obtain ⟨sx, _, c1, it, hq, he⟩ := nextFrom_offers E (nextTaskFor_q E) todo c c' offers h o ho
  obtain ⟨h1, h2, h3, _⟩ := entryOk_offer E he
  rw [h1, h2, ← taskCtxIdxs_congr hq.2.2.2, ← taskContext_congr hq.2.2.2]
  exact h3

end Orq
