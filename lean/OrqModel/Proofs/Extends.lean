/-
The append-only preorder on conductor states (C18): context snapshots and routes are only
appended, and so is the ghost publication log; task records are only appended and the identity,
route, incoming context list and predecessors of an existing record never change.  Every write is increasing for it
(`Write.ext`), hence every API operation, rerun included (`Properties/History.lean`).
-/
import OrqModel.Proofs.Fields

namespace Orq

/-- the part of a task execution record that is fixed once the execution exists -/
def Rec.core (r : Rec) : String × Nat × List Nat × List (TransId × Nat) :=
  (r.id, r.route, r.ctxsIn, r.prev)

def WState.Ext (a b : WState) : Prop :=
  (∃ l, b.contexts = a.contexts ++ l) ∧ (∃ l, b.routes = a.routes ++ l) ∧
  (∃ l, b.sequence.map Rec.core = a.sequence.map Rec.core ++ l) ∧ (∃ l, b.pubLog = a.pubLog ++ l)

theorem WState.Ext.of_eq {a b : WState} (h1 : b.contexts = a.contexts) (h2 : b.routes = a.routes)
    (h3 : b.sequence.map Rec.core = a.sequence.map Rec.core) (h4 : b.pubLog = a.pubLog) : a.Ext b :=
  ⟨⟨[], h1.trans (List.append_nil _).symm⟩, ⟨[], h2.trans (List.append_nil _).symm⟩,
   ⟨[], h3.trans (List.append_nil _).symm⟩, ⟨[], h4.trans (List.append_nil _).symm⟩⟩

theorem WState.Ext.refl (a : WState) : a.Ext a := .of_eq rfl rfl rfl rfl

theorem WState.Ext.trans {a b c : WState} (h1 : a.Ext b) (h2 : b.Ext c) : a.Ext c := by
  obtain ⟨⟨l1, e1⟩, ⟨l2, e2⟩, ⟨l3, e3⟩, ⟨l4, e4⟩⟩ := h1
  obtain ⟨⟨m1, f1⟩, ⟨m2, f2⟩, ⟨m3, f3⟩, ⟨m4, f4⟩⟩ := h2
  exact ⟨⟨l1 ++ m1, by rw [f1, e1, List.append_assoc]⟩, ⟨l2 ++ m2, by rw [f2, e2, List.append_assoc]⟩,
         ⟨l3 ++ m3, by rw [f3, e3, List.append_assoc]⟩, ⟨l4 ++ m4, by rw [f4, e4, List.append_assoc]⟩⟩

def extPre : Pre where
  R c c' := c.st.Ext c'.st
  refl c := WState.Ext.refl c.st
  trans := WState.Ext.trans

/-- the pattern every record update in the model has: a field other than the core ones -/
theorem WState.Ext.updateRec (s : WState) (i g) (h : ∀ r, (g r).core = r.core) : s.Ext (s.updateRec i g) :=
  WState.Ext.of_eq rfl rfl (WState.updateRec_map Rec.core h s i) rfl

theorem WState.Ext.appendRec (st : WState) (r : Rec) (k i) :
    st.Ext (({ st with sequence := st.sequence ++ [r] } : WState).setTask k i) :=
  ⟨⟨[], by simp⟩, ⟨[], by simp⟩, ⟨[r.core], by simp⟩, ⟨[], by simp⟩⟩

theorem WState.Ext.appendRoute (st : WState) (x) : st.Ext { st with routes := st.routes ++ [x] } :=
  ⟨⟨[], by simp⟩, ⟨[x], by simp⟩, ⟨[], by simp⟩, ⟨[], by simp⟩⟩

theorem WState.Ext.appendCtx (st : WState) (x i g) (pb) (h : ∀ r : Rec, (g r).core = r.core) :
    st.Ext (({ st with contexts := st.contexts ++ [x], pubLog := st.pubLog ++ [pb] } : WState).updateRec i g) :=
  ⟨⟨[x], by simp⟩, ⟨[], by simp⟩, ⟨[], by simp [WState.updateRec_map Rec.core h]⟩, ⟨[pb], by simp⟩⟩

theorem RecUpd.apply_core (u : RecUpd) (r : Rec) : (u.apply r).core = r.core := by cases u <;> rfl

theorem Write.ext : ∀ (c : Cond) (w : Write), c.st.Ext (w.apply c).st := by
  refine Write.of_fine (P := extPre) fun c w hw => ?_
  show c.st.Ext (w.apply c).st
  cases w with
  | log e => rw [Write.log_st]; exact .refl _
  | record i u => exact .updateRec _ _ _ u.apply_core
  | staged u => obtain ⟨l, h⟩ := u.apply_eq c.st; show c.st.Ext (u.apply c.st); rw [h]; exact .of_eq rfl rfl rfl rfl
  | appendRec r k => exact .appendRec _ _ _ _
  | route x => exact .appendRoute _ _
  | publish idx tid ctx n => exact .appendCtx _ _ _ _ _ fun _ => rfl
  | start ctx roots => exact ⟨⟨[ctx], rfl⟩, ⟨[[]], rfl⟩, ⟨[], by simp [Write.apply]⟩, ⟨[], by simp [Write.apply]⟩⟩
  | _ => first | exact hw.elim | exact .of_eq rfl rfl rfl rfl

theorem Rel.ext_of_run {G : Cond → Write → Prop} {α} {m : M α} (h : Rel (runPre G) m) : Rel extPre m :=
  h.of_run fun c w _ => Write.ext c w

theorem WState.Ext.getElem_core {a b : WState} (h : a.Ext b) {i : Nat} {r : Rec} (hr : a.sequence[i]? = some r) :
    ∃ r', b.sequence[i]? = some r' ∧ r'.core = r.core := by
  obtain ⟨_, _, ⟨l, hl⟩, _⟩ := h
  have h1 : (a.sequence.map Rec.core)[i]? = some r.core := by rw [List.getElem?_map, hr]; rfl
  have h2 : (b.sequence.map Rec.core)[i]? = some r.core := by
    rw [hl]
    have hi : i < (a.sequence.map Rec.core).length := (List.getElem?_eq_some_iff.mp h1).1
    rw [List.getElem?_append_left hi]
    exact h1
  simp only [List.getElem?_map, Option.map_eq_some_iff] at h2
  obtain ⟨r', hr', hc⟩ := h2
  exact ⟨r', hr', hc⟩

theorem Rec.core_id {r r' : Rec} (h : r'.core = r.core) : r'.id = r.id := by
  unfold Rec.core at h
  exact (Prod.mk.inj h).1

theorem Rec.core_prev {r r' : Rec} (h : r'.core = r.core) : r'.prev = r.prev := by
  unfold Rec.core at h
  exact (Prod.mk.inj (Prod.mk.inj (Prod.mk.inj h).2).2).2

theorem Rec.core_ctxsIn {r r' : Rec} (h : r'.core = r.core) : r'.ctxsIn = r.ctxsIn := by
  unfold Rec.core at h
  exact (Prod.mk.inj (Prod.mk.inj (Prod.mk.inj h).2).2).1

theorem WState.Ext.pubs_mem {a b : WState} (h : a.Ext b) {m} (hm : m ∈ a.pubLog) : m ∈ b.pubLog := by
  obtain ⟨_, _, _, l, hl⟩ := h
  rw [hl]
  exact List.mem_append_left _ hm

end Orq
