/-
Result postconditions for the model's monad: `Post m Q` says that whenever `m` returns normally,
its result satisfies `Q`; `PostS` also speaks of the state it returns in.
-/
import OrqModel.Proofs.Monad

namespace Orq

structure Post {α} (m : M α) (Q : α → Prop) : Prop where
  run : ∀ s a s', m s = (.ok a, s') → Q a

namespace Post

theorem pure {α} {Q : α → Prop} {a : α} (h : Q a) : Post (Pure.pure a : M α) Q :=
  ⟨fun _ _ _ heq => (pure_ok heq).1 ▸ h⟩

theorem throw {α} {Q : α → Prop} (e : Err) : Post (M.throw e : M α) Q :=
  ⟨fun _ _ _ heq => nomatch heq⟩

/-- bind where the first computation's postcondition is needed -/
theorem bindP {α β} {m : M α} {f : α → M β} {P : α → Prop} {Q : β → Prop}
    (hm : Post m P) (hf : ∀ a, P a → Post (f a) Q) : Post (m >>= f) Q :=
  ⟨fun s b s' heq =>
    have ⟨a, s1, h1, h2⟩ := M.bind_ok heq
    (hf a (hm.run s a s1 h1)).run s1 b s' h2⟩

theorem bind {α β} {m : M α} {f : α → M β} {Q : β → Prop} (hf : ∀ a, Post (f a) Q) :
    Post (m >>= f) Q := bindP (P := fun _ => True) ⟨fun _ _ _ _ => trivial⟩ fun a _ => hf a

theorem bind' {α β} {m : M α} {f : α → M β} {Q : β → Prop} (hf : ∀ a, Post (f a) Q) :
    Post (M.bind' m f) Q := bind hf

theorem tryCatch {α} {m : M α} {h : Err → M α} {Q : α → Prop} (hm : Post m Q) (hh : ∀ e, Post (h e) Q) :
    Post (M.tryCatch m h) Q :=
  ⟨fun s a s' heq => match tryCatch_ok heq with
    | .inl h1 => hm.run s a s' h1
    | .inr ⟨e, s1, _, h2⟩ => (hh e).run s1 a s' h2⟩

theorem liftExcept {α} {Q : α → Prop} {x : Except Err α} (h : ∀ a, x = .ok a → Q a) :
    Post (M.liftExcept x) Q :=
  ⟨fun _ a _ heq => h a (liftExcept_ok heq).1⟩

theorem mono {α} {m : M α} {Q Q' : α → Prop} (h : Post m Q) (hq : ∀ a, Q a → Q' a) : Post m Q' :=
  ⟨fun s a s' heq => hq a (h.run s a s' heq)⟩

theorem foldM' {α β} (xs : List α) (b : β) {f : β → α → M β} (I : β → Prop) (hb : I b)
    (hf : ∀ b a, I b → a ∈ xs → Post (f b a) I) : Post (M.foldM' xs b f) I := by
  induction xs generalizing b with
  | nil => exact pure hb
  | cons x xs ih =>
    exact bindP (hf b x hb List.mem_cons_self) fun b' hb' =>
      ih b' hb' fun b a hI ha => hf b a hI (List.mem_cons_of_mem _ ha)

end Post

/-- final-state postcondition on normal return -/
structure PostS {α} (m : M α) (Q : Cond → Prop) : Prop where
  run : ∀ s a s', m s = (.ok a, s') → Q s'

namespace PostS

theorem throw {α} {Q : Cond → Prop} (e : Err) : PostS (M.throw e : M α) Q :=
  ⟨fun _ _ _ heq => nomatch heq⟩

theorem bind {α β} {m : M α} {f : α → M β} {Q : Cond → Prop} (hf : ∀ a, PostS (f a) Q) :
    PostS (m >>= f) Q :=
  ⟨fun _ b s' heq =>
    have ⟨a, s1, _, h2⟩ := M.bind_ok heq
    (hf a).run s1 b s' h2⟩

theorem modifySt {Q : Cond → Prop} {f : WState → WState} (h : ∀ c : Cond, Q { c with st := f c.st }) :
    PostS (M.modifySt f) Q :=
  ⟨fun s _ _ heq => by cases heq; exact h s⟩

end PostS

end Orq
