/-
The history invariants on what staged entries and task records list, each with the property it
serves and the few facts about it that do not depend on how the state was reached (monotonicity
under the relations of `Frozen.lean` and `Extends.lean`).  `Guard.lean` says under what licence the
engine writes, `Keep.lean` that a write under that licence keeps each of them.
-/
import OrqModel.Proofs.Frozen
import OrqModel.Proofs.Extends

namespace Orq

/-
`TK`: the task-key → record map points at records of that task: `tasks[(t, r)] = i` implies that record
`i` exists and is a record of task `t`.  An invariant of every history; used by C01 (the
re-staged entry of a retry and of a rerun inherits the predecessors of a record of the same task).
-/

/-- the record a map entry points at belongs to the entry's task -/
def PointsOk (st : WState) (p : TaskKey × Nat) : Prop := ∃ r, st.sequence[p.2]? = some r ∧ r.id = p.1.1

def TK (c : Cond) : Prop := ∀ p ∈ c.st.tasks, PointsOk c.st p

theorem PointsOk.ext {a b : WState} (h : a.Ext b) {p : TaskKey × Nat} (hp : PointsOk a p) : PointsOk b p := by
  obtain ⟨r, hr, hid⟩ := hp
  obtain ⟨r', hr', hc⟩ := h.getElem_core hr
  exact ⟨r', hr', (Rec.core_id hc).trans hid⟩

structure TKStep (c c' : Cond) : Prop where
  ext : c.st.Ext c'.st
  tasks : ∀ p ∈ c'.st.tasks, p ∈ c.st.tasks ∨ PointsOk c'.st p

def tkPre : Pre where
  R := TKStep
  refl c := ⟨WState.Ext.refl _, fun p hp => Or.inl hp⟩
  trans := by
    intro a b c h1 h2
    refine ⟨WState.Ext.trans h1.ext h2.ext, ?_⟩
    intro p hp
    rcases h2.tasks p hp with h | h
    · rcases h1.tasks p h with h' | h'
      · exact Or.inl h'
      · exact Or.inr (h'.ext h2.ext)
    · exact Or.inr h

theorem TK.step {c c' : Cond} (h : TKStep c c') (ht : TK c) : TK c' := by
  intro p hp
  rcases h.tasks p hp with h' | h'
  · exact (ht p h').ext h.ext
  · exact h'

theorem TK.taskIdx {c : Cond} (ht : TK c) {k : TaskKey} {i : Nat} (h : c.st.taskIdx? k = some i) :
    ∃ r, c.st.sequence[i]? = some r ∧ r.id = k.1 := ht _ (WState.mem_of_taskIdx? h)

theorem TKStep.append (c : Cond) (r0 : Rec) (k : TaskKey) (h0 : r0.id = k.1) :
    TKStep c { c with st := ({ c.st with sequence := c.st.sequence ++ [r0] } : WState).setTask k c.st.sequence.length } := by
  refine ⟨WState.Ext.appendRec _ _ _ _, ?_⟩
  intro p hp
  rw [WState.setTask_eq] at hp
  obtain ⟨h, -⟩ | rfl := mem_setAssoc_iff.mp hp
  · exact .inl h
  · right
    refine ⟨r0, ?_, h0⟩
    show (WState.setTask _ _ _).sequence[c.st.sequence.length]? = some r0
    rw [WState.setTask_sequence]
    exact List.getElem?_concat_length

/-
`Just` (C01): whatever is staged (hence whatever is offered) and whatever has been started lists as its
predecessors only completed records whose transitions have been decided.
-/

/-- every listed predecessor is a completed, decided record -/
def PrevOk (c : Cond) (l : List (TransId × Nat)) : Prop :=
  ∀ p ∈ l, ∃ q, c.st.sequence[p.2]? = some q ∧ Comp q ∧ q.next ≠ []

structure Just (c : Cond) : Prop where
  staged : ∀ x ∈ c.st.staged, PrevOk c x.prev
  recs : ∀ r ∈ c.st.sequence, PrevOk c r.prev

theorem PrevOk.mono {c c' : Cond} (h : DecStepW c c') {l : List (TransId × Nat)} (hl : PrevOk c l) : PrevOk c' l := by
  intro p hp
  obtain ⟨q, hq, hc, hn⟩ := hl p hp
  obtain ⟨q', hq', s⟩ := h.old p.2 q hq
  exact ⟨q', hq', s.comp hc hn, s.decided hn⟩

theorem PrevOk.nil (c : Cond) : PrevOk c [] := fun p hp => by cases hp

/-
`JT` (C01, the decision half): every predecessor a staged entry or a task record lists is a record
that has *recorded `true`* for the transition leading to that task.
-/

def Recorded (c : Cond) (i : Nat) (m : TransId × Bool) : Prop :=
  ∃ q, c.st.sequence[i]? = some q ∧ m ∈ q.next

/-- predecessor entry `p = ((source task, key), record index)` of an entry of task `id`: the
    record has recorded `true` for the transition `(id, key)` -/
def TrueAt (c : Cond) (id : String) (p : TransId × Nat) : Prop := Recorded c p.2 ((id, p.1.2), true)

def PrevT (c : Cond) (id : String) (l : List (TransId × Nat)) : Prop := ∀ p ∈ l, TrueAt c id p

structure JT (c : Cond) : Prop where
  staged : ∀ x ∈ c.st.staged, PrevT c x.id x.prev
  recs : ∀ r ∈ c.st.sequence, PrevT c r.id r.prev

theorem Recorded.mono {c c' : Cond} (h : MK c c') {i : Nat} {m} (hr : Recorded c i m) : Recorded c' i m :=
  let ⟨q, hq, hm⟩ := hr; h.keep i q m hq hm

theorem PrevT.mono {c c' : Cond} (h : MK c c') {id : String} {l} (hl : PrevT c id l) : PrevT c' id l :=
  fun p hp => (hl p hp).mono h

theorem PrevT.nil (c : Cond) (id : String) : PrevT c id [] := fun p hp => by cases hp

/-- the decisions record `idx` holds do not mention `tid` yet -/
def FreshAt (c : Cond) (idx : Nat) (tid : TransId) : Prop :=
  ∀ q, c.st.sequence[idx]? = some q → ∀ m ∈ q.next, m.1 ≠ tid

/-- the record at `idx`, if there is one, is a record of task `id` -/
def IdAt (c : Cond) (idx : Nat) (id : String) : Prop := ∀ r, c.st.sequence[idx]? = some r → r.id = id

theorem TK.idAt {c : Cond} {k : TaskKey} {i : Nat} (ht : TK c) (hi : c.st.taskIdx? k = some i) : IdAt c i k.1 := fun r hr => by
  obtain ⟨q, hq, hid⟩ := ht.taskIdx hi
  rw [hr] at hq
  cases hq
  exact hid

/-
`NE` (C01, "justified by the definition"): every decision a task record holds is a decision about an
edge of the composed graph that leaves the record's own task.  With the decision invariant `JT`
this gives: every predecessor a staged entry of task `t` names is a record of some task `s` that
recorded `true` for an edge `s → t` of the graph composed from the definition.
-/

/-- the decision key `tid = (target, key)` is an edge of the graph leaving `src` -/
def EdgeOf (c : Cond) (src : String) (tid : TransId) : Prop :=
  ∃ e ∈ c.graph.edges, e.src = src ∧ e.dst = tid.1 ∧ e.key = tid.2

structure NE (c : Cond) : Prop where
  recs : ∀ r ∈ c.st.sequence, ∀ m ∈ r.next, EdgeOf c r.id m.1

/-
`IN` (C06, the inheritance half): whatever context snapshot a listed predecessor was rendered from, the
staged entry (and later the record) that lists it is rendered from too; and every list starts
from the initial context (index 0 is always present).
-/

/-- the lists of one staged entry or record: index 0 is there, and so is everything each listed
    predecessor saw -/
def Inh (c : Cond) (prev : List (TransId × Nat)) (ctxs : List Nat) : Prop :=
  0 ∈ ctxs ∧ ∀ p ∈ prev, ∃ q, c.st.sequence[p.2]? = some q ∧ ∀ i ∈ q.ctxsIn, i ∈ ctxs

structure IN (c : Cond) : Prop where
  staged : ∀ x ∈ c.st.staged, Inh c x.prev x.ctxsIn
  recs : ∀ r ∈ c.st.sequence, Inh c r.prev r.ctxsIn

theorem Inh.mono {c c' : Cond} (he : c.st.Ext c'.st) {prev : List (TransId × Nat)} {ctxs : List Nat}
    (h : Inh c prev ctxs) : Inh c' prev ctxs := by
  refine ⟨h.1, ?_⟩
  intro p hp
  obtain ⟨q, hq, hsub⟩ := h.2 p hp
  obtain ⟨q', hq', hc⟩ := he.getElem_core hq
  exact ⟨q', hq', by rw [Rec.core_ctxsIn hc]; exact hsub⟩

theorem Inh.orZero {c : Cond} {prev : List (TransId × Nat)} {l : List Nat} (h : Inh c prev l) :
    Inh c prev (if l.isEmpty then [0] else l) :=
  ⟨mem_orZero h.1, fun p hp => let ⟨q, hq, hs⟩ := h.2 p hp; ⟨q, hq, fun i hi => mem_orZero (hs i hi)⟩⟩

/-
`CA` (C06, ancestor-exactness): every context snapshot a staged entry or a task record of task `t` lists
is the initial one (index 0) or reached `t` through a record that *recorded `true` for a
transition into `t`* and either had that snapshot in its own list or published it on that very
transition.  Unfolding the definition along the chain of such records, every variable a task is
rendered with was published on a path of satisfied transitions ending in that task: a variable
published only on a transition that does not lead to the task is never visible to it.

`pubLog` is the model's ghost log of (publishing record, transition, snapshot).
-/

/-- snapshot `i` reached task `id` through some record that recorded `true` for a transition into `id` -/
def Via (c : Cond) (id : String) (i : Nat) : Prop :=
  ∃ (idx : Nat) (q : Rec) (key : Nat), c.st.sequence[idx]? = some q ∧ (((id, key) : TransId), true) ∈ q.next ∧
    (i ∈ q.ctxsIn ∨ (idx, ((id, key) : TransId), i) ∈ c.st.pubLog)

def CtxOk (c : Cond) (id : String) (l : List Nat) : Prop := ∀ i ∈ l, i = 0 ∨ Via c id i

structure CA (c : Cond) : Prop where
  staged : ∀ x ∈ c.st.staged, CtxOk c x.id x.ctxsIn
  recs : ∀ r ∈ c.st.sequence, CtxOk c r.id r.ctxsIn

theorem Via.mono {c c' : Cond} (hm : MK c c') (he : c.st.Ext c'.st) {id : String} {i : Nat}
    (h : Via c id i) : Via c' id i := by
  obtain ⟨idx, q, key, hq, hmem, hi⟩ := h
  obtain ⟨q', hq', hmem'⟩ := hm.keep idx q _ hq hmem
  obtain ⟨q'', hq'', hc⟩ := he.getElem_core hq
  rw [hq'] at hq''
  cases hq''
  refine ⟨idx, q', key, hq', hmem', ?_⟩
  rcases hi with hi | hi
  · left; rw [Rec.core_ctxsIn hc]; exact hi
  · right; exact he.pubs_mem hi

theorem CtxOk.mono {c c' : Cond} (hm : MK c c') (he : c.st.Ext c'.st) {id : String} {l : List Nat}
    (h : CtxOk c id l) : CtxOk c' id l := by
  intro i hi
  rcases h i hi with h0 | hv
  · exact Or.inl h0
  · exact Or.inr (hv.mono hm he)

theorem CtxOk.zero (c : Cond) (id : String) : CtxOk c id [0] := by
  intro i hi
  left
  exact List.mem_singleton.mp hi

theorem CtxOk.orZero {c : Cond} {id : String} {l : List Nat} (h : CtxOk c id l) :
    CtxOk c id (if l.isEmpty then [0] else l) := by
  split
  · exact CtxOk.zero c id
  · exact h

/-
`PL` (C06, completeness for the predecessors an entry names): the snapshot a predecessor published on the
transition into a task is listed by the staged entry (and the record) of that task that names the
predecessor.  Together with `IN` (what the predecessor *saw* is listed): a task is
rendered from everything each predecessor it names saw or published on the way.
-/

/-- for an entry of task `id`: whatever a named predecessor published on its transition into `id`
    is among the listed snapshots -/
def PubOk (c : Cond) (id : String) (prev : List (TransId × Nat)) (ctxs : List Nat) : Prop :=
  ∀ p ∈ prev, ∀ i, (p.2, ((id, p.1.2) : TransId), i) ∈ c.st.pubLog → i ∈ ctxs

structure PL (c : Cond) : Prop where
  staged : ∀ x ∈ c.st.staged, PubOk c x.id x.prev x.ctxsIn
  recs : ∀ r ∈ c.st.sequence, PubOk c r.id r.prev r.ctxsIn
  logged : ∀ m ∈ c.st.pubLog, Recorded c m.1 (m.2.1, true)

theorem PubOk.same {c c' : Cond} (hl : c'.st.pubLog = c.st.pubLog) {id : String} {prev : List (TransId × Nat)}
    {ctxs : List Nat} (h : PubOk c id prev ctxs) : PubOk c' id prev ctxs := by
  intro p hp i hi
  rw [hl] at hi
  exact h p hp i hi

theorem PubOk.orZero {c : Cond} {id : String} {prev : List (TransId × Nat)} {l : List Nat} (h : PubOk c id prev l) :
    PubOk c id prev (if l.isEmpty then [0] else l) :=
  fun p hp i hi => mem_orZero (h p hp i hi)

/-- nobody names record `idx` as the source of transition `tid` yet -/
structure NoRef (c : Cond) (idx : Nat) (tid : TransId) : Prop where
  staged : ∀ x ∈ c.st.staged, ∀ p ∈ x.prev, p.2 = idx → ((x.id, p.1.2) : TransId) ≠ tid
  recs : ∀ r ∈ c.st.sequence, ∀ p ∈ r.prev, p.2 = idx → ((r.id, p.1.2) : TransId) ≠ tid

theorem NoRef.of_fresh {c : Cond} {idx : Nat} {tid : TransId} (hjt : JT c) (hfresh : FreshAt c idx tid) :
    NoRef c idx tid := by
  have key {id : String} {l : List (TransId × Nat)} (hl : PrevT c id l) :
      ∀ p ∈ l, p.2 = idx → ((id, p.1.2) : TransId) ≠ tid := by
    intro p hp hidx heq
    obtain ⟨q, hq, hm⟩ := hl p hp
    rw [hidx] at hq
    exact hfresh q hq _ hm heq
  exact ⟨fun x hx => key (hjt.staged x hx), fun r hr => key (hjt.recs r hr)⟩

/-- every staged entry and every record satisfies `Φ` of its task, its predecessors and its context
    list: the shape of the invariants on what is listed (`Just`, `JT`, `CA`, `IN`, `PL`) -/
structure Listed (Φ : Cond → String → List (TransId × Nat) → List Nat → Prop) (c : Cond) : Prop where
  staged : ∀ x ∈ c.st.staged, Φ c x.id x.prev x.ctxsIn
  recs : ∀ r ∈ c.st.sequence, Φ c r.id r.prev r.ctxsIn

end Orq
