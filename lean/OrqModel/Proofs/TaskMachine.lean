/-
The task state machine as one relation between a record's status and the machine's answer,
established by one evaluation of each generated table.  What the invariants need of the machine
(completed records are reopened only by the engine's retry event, `retrying` is entered only by
it, every answer has a task event) are its corollaries.
-/
import OrqModel.Proofs.StepRes
import OrqModel.Model.Conductor

namespace Orq

/-- The answers `s'` the task machine gives for a record in status `tk`, whatever the event: a
    status that has a task event (or `unset`); `tk` itself, or else `tk` is not completed and `s'`
    is not `retrying`.  The engine's retry event is the one exception (`tbl_tk_engine`). -/
def tkMove (tk s' : Status) : Bool :=
  (s' == .unset || hasTaskEvent s') && (s' == tk || (!tk.isCompleted && s' != .retrying))

theorem tbl_tk_action : ∀ (tk ev s' : Status), tkOnActionEvent tk ev = .ok s' → tkMove tk s' = true := by
  decide +kernel

/-- The item table in one evaluation.  Every answer is a move of the task machine; an item event
    completes a with-items task (takes it to a completed status it did not have) only when no other
    item is active, and makes it `succeeded` only if it is itself a success and no other item is
    paused, canceled, failed or incomplete.  (A predicate of this size is stated on booleans: see
    `StepRes.decForallOk`.) -/
theorem tbl_item : ∀ (tk ev : Status) (a p c f i : Bool),
    (tkOnItemEvent tk ev a p c f i).all? (fun s' => tkMove tk s' && (!s'.isCompleted || s' == tk ||
      (!a && (s' != .succeeded || (ev == .succeeded && !p && !c && !f && !i))))) = true := by
  decide +kernel

theorem tbl_tk_item (tk ev : Status) (a p c f i : Bool) (s' : Status)
    (h : tkOnItemEvent tk ev a p c f i = .ok s') : tkMove tk s' = true :=
  (Bool.and_eq_true_iff.mp (StepRes.all?_ok (tbl_item tk ev a p c f i) h)).1

theorem tbl_tk_item_ns : ∀ (tk ev s' : Status), tkOnItemEventNoStaged tk ev = .ok s' → tkMove tk s' = true := by
  decide +kernel

theorem tbl_tk_engine : ∀ (tk : Status) (cmd : Cmd) (s' : Status), tkOnEngineEvent tk cmd = .ok s' →
    tkMove tk s' = true ∨ (cmd = .retry_ ∧ (tk = .succeeded ∨ tk = .failed) ∧ s' = .retrying) := by
  decide +kernel

theorem tbl_tk_wf : ∀ (tk req : Status) (h a i : Bool) (s' : Status),
    tkOnWorkflowEvent tk req h a i = .ok s' → tkMove tk s' = true := by decide +kernel

theorem tkMove_completed {tk s' : Status} (h : tkMove tk s' = true) (hc : tk.isCompleted = true) : s' = tk := by
  refine (Bool.or_eq_true_iff.mp (Bool.and_eq_true_iff.mp h).2).elim eq_of_beq fun h => ?_
  rw [hc] at h
  cases h

theorem tkMove_retrying : ∀ {tk : Status}, tkMove tk .retrying = true → tk = .retrying := by decide +kernel

theorem tkMove_event {tk s' : Status} (h : tkMove tk s' = true) (hne : s' ≠ .unset) : hasTaskEvent s' = true :=
  (Bool.or_eq_true_iff.mp (Bool.and_eq_true_iff.mp h).1).resolve_left fun h => hne (eq_of_beq h)

theorem tkEventStep_move {c : Cond} {r : Rec} {ev : Event} {s' : Status}
    (h : tkEventStep c r ev = .ok (.ok s')) :
    tkMove (r.status.getD .unset) s' = true ∨
    (ev = .engine .retry_ ∧ (r.status = some .succeeded ∨ r.status = some .failed) ∧ s' = .retrying) := by
  unfold tkEventStep at h
  cases ev with
  | action s res => exact .inl (tbl_tk_action _ s _ (Except.ok.inj h))
  | engine cmd =>
    rcases tbl_tk_engine _ cmd _ (Except.ok.inj h) with hm | ⟨rfl, hs, rfl⟩
    · exact .inl hm
    · refine .inr ⟨rfl, ?_, rfl⟩
      cases hst : r.status with
      | none => rw [hst] at hs; rcases hs with hs | hs <;> cases hs
      | some s => rw [hst] at hs; exact hs.imp (congrArg some) (congrArg some)
  | item idx s res acc =>
    dsimp only at h
    split at h
    · exact .inl (tbl_tk_item_ns _ s _ (Except.ok.inj h))
    · split at h
      · cases h
      · exact .inl (tbl_tk_item _ s _ _ _ _ _ _ (Except.ok.inj h))

theorem tkEventStep_enter (c : Cond) (r : Rec) (ev : Event)
    (h : tkEventStep c r ev = .ok (.ok .retrying)) (hold : r.status.getD .unset ≠ .retrying) :
    ev = .engine .retry_ ∧ (r.status = some .succeeded ∨ r.status = some .failed) := by
  rcases tkEventStep_move h with hm | ⟨hev, hs, _⟩
  · exact absurd (tkMove_retrying hm) hold
  · exact ⟨hev, hs⟩

end Orq
