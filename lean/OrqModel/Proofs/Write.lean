/-
The conductor model changes its state only through the primitive writes listed here (`Write`).
`Run G c c'` says that `c'` is reached from `c` by a sequence of writes, each allowed by `G` in the
state it is applied to.  `Run G` is a preorder, so the program logic of `Rel.lean` applies to it, and
a preorder `P` holds across a call as soon as it holds across every write the call may perform
(`Rel.of_run`): the model functions are inspected once (`Proofs/Footprint.lean`), not once per
preorder.
-/
import OrqModel.Proofs.Rel
import OrqModel.Proofs.Raises

namespace Orq

/-- the assignments to one field of a task record (`status`, `next[…]`, `term`, `retry`) -/
inductive RecUpd where
  | status (s : Status)
  | decide (tid : TransId) (b : Bool)
  | term (b : Bool)
  | retry (rs : RetryState)

def RecUpd.apply (u : RecUpd) (r : Rec) : Rec :=
  match u with
  | .status s => { r with status := some s }
  | .decide tid b => { r with next := setAssoc r.next tid b }
  | .term b => { r with term := b }
  | .retry rs => { r with retry := some rs }

/-- what happens to a staged entry: its flags and `items` are set, a transition arrives, it is added or removed -/
inductive StgUpd where
  | items (k : TaskKey) (g : Option (List Status) → Option (List Status))
  | ready (k : TaskKey) (b : Bool)
  | completed (k : TaskKey) (b : Bool)
  | runOnFail (k : TaskKey)
  /-- a further transition arrives at an entry that is already staged -/
  | arrive (k : TaskKey) (rest : List Nat) (backref : TransId) (idx : Nat)
  | add (x : Staged)
  | remove (k : TaskKey)

def StgUpd.apply (u : StgUpd) (st : WState) : WState :=
  match u with
  | .items k g => st.updateStaged k fun x => { x with items := g x.items }
  | .ready k b => st.updateStaged k fun x => { x with ready := b }
  | .completed k b => st.updateStaged k fun x => { x with completed := b }
  | .runOnFail k => st.updateStaged k fun x => { x with runOnFail := true }
  | .arrive k rest backref idx => st.updateStaged k fun x =>
      { x with ctxsIn := x.ctxsIn ++ rest, prev := setAssoc x.prev backref idx, items := none, completed := false }
  | .add x => st.addStaged x
  | .remove k => st.removeStaged k

inductive Write where
  | log (e : ErrEntry)
  | dropErrors (task : String)
  | output (o : Option Val.Dict)
  /-- the two state machines, as the model calls them -/
  | wfTask (k : TaskKey) (ev : Status)
  | wfReq (req : Status)
  | tkReq (i : Nat) (req : Status)
  | tkEv (i : Nat) (ev : Event)
  | record (i : Nat) (u : RecUpd)
  | staged (u : StgUpd)
  /-- a new record, to which the task-key map then points -/
  | appendRec (r : Rec) (k : TaskKey)
  | route (x : List TransId)
  /-- a transition publishes snapshot `n` -/
  | publish (idx : Nat) (tid : TransId) (ctx : Val.Dict) (n : Nat)
  | rerun (idxs : List Nat)
  | status (s : Status)
  /-- the end of the initialisation: first snapshot, first route, start tasks -/
  | start (ctx : Val.Dict) (roots : List String)

def Write.apply (w : Write) (c : Cond) : Cond :=
  match w with
  | .log e => if c.errors.any (·.same e) then c else { c with errors := c.errors ++ [e] }
  | .dropErrors t => { c with errors := c.errors.filter fun e => e.taskId != some t }
  | .output o => { c with output := o }
  | .wfTask k ev => (wfProcessTaskEvent k ev c).2
  | .wfReq req => (wfProcessWorkflowEvent req c).2
  | .tkReq i req => (tkProcessWorkflowEvent i req c).2
  | .tkEv i ev => (tkProcessEvent i ev c).2
  | .record i u => { c with st := c.st.updateRec i u.apply }
  | .staged u => { c with st := u.apply c.st }
  | .appendRec r k =>
      { c with st := ({ c.st with sequence := c.st.sequence ++ [r] } : WState).setTask k c.st.sequence.length }
  | .route x => { c with st := { c.st with routes := c.st.routes ++ [x] } }
  | .publish idx tid ctx n =>
      let st : WState := { c.st with contexts := c.st.contexts ++ [ctx], pubLog := c.st.pubLog ++ [(idx, tid, n)] }
      { c with st := st.updateRec idx fun r => { r with ctxsOut := some (tid, n) } }
  | .rerun idxs => { c with st := { c.st with reruns := c.st.reruns ++ [idxs] } }
  | .status s => { c with st := { c.st with status := s } }
  | .start ctx roots =>
      { c with st := { c.st with
          contexts := c.st.contexts ++ [ctx],
          routes := c.st.routes ++ [[]],
          staged := c.st.staged ++ roots.map fun n => ({ id := n, route := 0, ctxsIn := [0], ready := true } : Staged) } }

inductive Run (G : Cond → Write → Prop) : Cond → Cond → Prop
  | refl (c : Cond) : Run G c c
  | step {c c' : Cond} (w : Write) : G c w → Run G (w.apply c) c' → Run G c c'

namespace Run

variable {G G' : Cond → Write → Prop}

theorem trans {a b c : Cond} (h1 : Run G a b) (h2 : Run G b c) : Run G a c := by
  induction h1 with
  | refl => exact h2
  | step w hw _ ih => exact .step w hw (ih h2)

theorem single {c : Cond} (w : Write) (hw : G c w) : Run G c (w.apply c) := .step w hw (.refl _)

theorem mono (h : ∀ c w, G c w → G' c w) {a b : Cond} (hr : Run G a b) : Run G' a b := by
  induction hr with
  | refl => exact .refl _
  | step w hw _ ih => exact .step w (h _ w hw) ih

theorem rel {P : Pre} (hP : ∀ c w, G c w → P.R c (w.apply c)) {a b : Cond} (hr : Run G a b) : P.R a b := by
  induction hr with
  | refl => exact P.refl _
  | step w hw _ ih => exact P.trans (hP _ w hw) ih

theorem inv {I : Cond → Prop} (hI : ∀ c w, G c w → I c → I (w.apply c)) {a b : Cond} (hr : Run G a b)
    (ha : I a) : I b := by
  induction hr with
  | refl => exact ha
  | step w hw _ ih => exact ih (hI _ w hw ha)

end Run

def runPre (G : Cond → Write → Prop) : Pre := ⟨Run G, Run.refl, Run.trans⟩

/-- `m` performs only writes from the set `F` -/
abbrev Writes (F : Write → Prop) {α} (m : M α) : Prop := Rel (runPre fun _ => F) m

namespace Rel

variable {G G' : Cond → Write → Prop} {α : Type} {m : M α}

theorem of_run {P : Pre} (h : Rel (runPre G) m) (hP : ∀ c w, G c w → P.R c (w.apply c)) : Rel P m :=
  ⟨fun c => (h.run c).rel hP⟩

theorem mono (h : Rel (runPre G) m) (hG : ∀ c w, G c w → G' c w) : Rel (runPre G') m :=
  ⟨fun c => (h.run c).mono hG⟩

theorem modifySt_write {f : WState → WState} (w : Write) (hw : ∀ c, G c w)
    (h : ∀ c : Cond, { c with st := f c.st } = w.apply c) : Rel (runPre G) (M.modifySt f) :=
  ⟨fun c => show Run G c { c with st := f c.st } from h c ▸ Run.single w (hw c)⟩

theorem modify_write {f : Cond → Cond} (w : Write) (hw : ∀ c, G c w) (h : ∀ c, f c = w.apply c) :
    Rel (runPre G) (M.modify f) :=
  ⟨fun c => show Run G c (f c) from h c ▸ Run.single w (hw c)⟩

end Rel

/-! ### the state machines

The four state-machine writes are kept whole, because some preorders (the status automaton, the
frozen records) need to know which table produced the new status.  For all other purposes they are
refined: the workflow machine writes workflow statuses and log entries, the task machine the
status of the one record. -/

def Write.refines : Write → Write → Prop
  | .wfTask .., w' | .wfReq _, w' => (∃ s, w' = .status s) ∨ ∃ e, w' = .log e
  | .tkReq i _, w' | .tkEv i _, w' => ∃ s, w' = .record i (.status s)
  | w, w' => w' = w

/-- what `wfProcessTaskEvent` and `wfProcessWorkflowEvent` do with the answer `r` of their table;
    `chk` says after which new statuses the unreachable-join check is made -/
def wfAnswer (r : StepRes) (chk : Status → Bool) : M Unit := fun c =>
  match r with
  | .raise e => (.error (.machine e), c)
  | .ok s' =>
    let c1 : Cond := { c with st := { c.st with status := s' } }
    if s' != c.st.status && chk s' then
      if (unreachableBarriers c1).isEmpty then (.ok (), c1)
      else
        (M.forEach (unreachableBarriers c1) fun x => logError "UnreachableJoinError" (some x.id) (some x.route))
          { c1 with st := { c1.st with status := .failed } }
    else (.ok (), c1)

/-- the answer of the task-event table on the state queries `wfProcessTaskEvent` makes -/
def taskAnswer (k : TaskKey) (ev : Status) (c : Cond) : StepRes :=
  let sm := taskEventSummary ev (hasNext c k false) (hasNext c k true) c.st.hasActive c.st.hasCanceling
    c.st.hasCanceled c.st.hasPausing c.st.hasPaused c.st.hasStaged
  wfOnTaskEvent c.st.status ev sm.1 sm.2.1 sm.2.2

theorem wfProcessTaskEvent_eq (k : TaskKey) (ev : Status) (c : Cond) :
    wfProcessTaskEvent k ev c = wfAnswer (taskAnswer k ev c) wfUnreachCheck c := rfl

theorem wfProcessWorkflowEvent_eq (req : Status) (c : Cond) :
    wfProcessWorkflowEvent req c =
      wfAnswer (wfOnWorkflowEvent c.st.status req c.st.hasActive c.st.hasStaged c.st.hasPaused) wfReqUnreachCheck c := rfl

theorem wfAnswer_run (r : StepRes) (chk : Status → Bool) (c : Cond) :
    Run (fun _ w' => (∃ s, w' = .status s) ∨ ∃ e, w' = .log e) c (wfAnswer r chk c).2 := by
  unfold wfAnswer
  split
  · exact .refl _
  · dsimp only
    split
    · split
      · exact Run.single (.status _) (Or.inl ⟨_, rfl⟩)
      · exact .step (.status _) (Or.inl ⟨_, rfl⟩) (.step (.status .failed) (Or.inl ⟨_, rfl⟩)
          ((Rel.forEach (P := runPre _) _ fun x => Rel.modify_write (.log _) (fun _ => Or.inr ⟨_, rfl⟩) fun _ => rfl).run _))
    · exact Run.single (.status _) (Or.inl ⟨_, rfl⟩)

theorem wfAnswer_raises (r : StepRes) (chk : Status → Bool) :
    Raises (wfAnswer r chk) fun e => ∃ m, r = .raise m ∧ e = .machine m := by
  constructor
  intro c e s' h
  unfold wfAnswer at h
  split at h
  · cases h; exact ⟨_, rfl, rfl⟩
  · dsimp only at h
    split at h
    · split at h
      · cases h
      · exact ((Raises.forEach (X := fun _ => False) _ fun _ => Raises.modify _).run _ e s' h).elim
    · cases h

theorem wfAnswer_ok (s' : Status) (chk : Status → Bool) (c : Cond) : (wfAnswer (.ok s') chk c).1 = .ok () := by
  cases hm : wfAnswer (.ok s') chk c with
  | mk r c' => cases r with
    | ok a => rfl
    | error e => obtain ⟨m, hm', _⟩ := (wfAnswer_raises (.ok s') chk).run c e c' hm; cases hm'

theorem Write.tkReq_apply (i : Nat) (req : Status) (c : Cond) : (Write.tkReq i req).apply c = c ∨
    ∃ r s, c.st.sequence[i]? = some r ∧
      tkOnWorkflowEvent (r.status.getD .unset) req (itemFlags c.st r).1 (itemFlags c.st r).2.1 (itemFlags c.st r).2.2 = .ok s ∧
      (Write.tkReq i req).apply c = (Write.record i (.status s)).apply c := by
  show (tkProcessWorkflowEvent i req c).2 = c ∨ ∃ r s, _ ∧ _ ∧ (tkProcessWorkflowEvent i req c).2 = _
  unfold tkProcessWorkflowEvent
  repeat' (first | split | exact .inl rfl | exact .inr ⟨_, _, ‹_›, ‹_›, rfl⟩)

theorem Write.tkEv_apply (i : Nat) (ev : Event) (c : Cond) : (Write.tkEv i ev).apply c = c ∨
    ∃ r s, c.st.sequence[i]? = some r ∧ tkEventStep c r ev = .ok (.ok s) ∧
      (Write.tkEv i ev).apply c = (Write.record i (.status s)).apply c := by
  show (tkProcessEvent i ev c).2 = c ∨ ∃ r s, _ ∧ _ ∧ (tkProcessEvent i ev c).2 = _
  unfold tkProcessEvent
  repeat' (first | split | exact .inl rfl | exact .inr ⟨_, _, ‹_›, ‹_›, rfl⟩)

theorem Write.refine (w : Write) (c : Cond) : Run (fun _ => w.refines) c (w.apply c) := by
  cases w with
  | wfTask k ev => exact wfAnswer_run (taskAnswer k ev c) wfUnreachCheck c
  | wfReq req => exact wfAnswer_run _ wfReqUnreachCheck c
  | tkReq i req =>
    obtain e | ⟨_, s, _, _, e⟩ := Write.tkReq_apply i req c <;> rw [e]
    · exact .refl _
    · exact Run.single (.record i (.status s)) ⟨_, rfl⟩
  | tkEv i ev =>
    obtain e | ⟨_, s, _, _, e⟩ := Write.tkEv_apply i ev c <;> rw [e]
    · exact .refl _
    · exact Run.single (.record i (.status s)) ⟨_, rfl⟩
  | _ => exact Run.single _ rfl

def Write.fine : Write → Prop
  | .wfTask .. | .wfReq _ | .tkReq .. | .tkEv .. => False
  | _ => True

theorem Write.refines.fine {w w' : Write} (h : w.refines w') : w'.fine := by
  cases w <;> first | (cases h; trivial) | (obtain ⟨_, rfl⟩ | ⟨_, rfl⟩ := h <;> trivial) | (obtain ⟨_, rfl⟩ := h; trivial)

/-- a preorder that all writes other than the state machines respect is respected by these too -/
theorem Write.of_fine {P : Pre} (h : ∀ (c : Cond) (w : Write), w.fine → P.R c (w.apply c)) (c : Cond) (w : Write) :
    P.R c (w.apply c) :=
  (w.refine c).rel fun c _ hw => h c _ hw.fine

/-- the same for a preorder that holds across the writes of a set `S` only, when `S` contains what the
    state machines in it refine to -/
theorem Write.of_fine_in {P : Pre} {S : Write → Prop} (hs : ∀ s, S (.status s)) (hl : ∀ e, S (.log e))
    (hr : ∀ i s, S (.record i (.status s))) (h : ∀ (c : Cond) (w : Write), w.fine → S w → P.R c (w.apply c))
    (c : Cond) (w : Write) (hw : S w) : P.R c (w.apply c) := by
  refine (w.refine c).rel fun c w' hw' => h c w' hw'.fine ?_
  cases w with
  | wfTask | wfReq =>
    obtain ⟨s, rfl⟩ | ⟨e, rfl⟩ := hw'
    · exact hs s
    · exact hl e
  | tkReq i | tkEv i => obtain ⟨s, rfl⟩ := hw'; exact hr i s
  | _ => exact hw' ▸ hw

end Orq
