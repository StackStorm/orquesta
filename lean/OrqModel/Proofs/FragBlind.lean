/-
The fragment evaluator of the executable driver cannot see the staging area: it satisfies the
hypothesis of the repeatability theorem (`getNextTasks_idem`), which is therefore not vacuous.
-/
import OrqModel.Proofs.NextIdem
import OrqModel.Model.Eval

namespace Orq

/- The ghost `pubLog` is generalised along with `staged`: `SameButItems` says nothing about it, so the two
   states an items-blind evaluator must not tell apart may differ in it. -/
theorem taskStatusOf_staged (st : WState) (X : List Staged) (P : List (Nat × TransId × Nat)) (tid : String) (fuel route : Nat) :
    taskStatusOf { st with staged := X, pubLog := P } tid fuel route = taskStatusOf st tid fuel route := by
  induction fuel generalizing route with
  | zero =>
    cases route with
    | zero => simp only [taskStatusOf, WState.taskIdx?]
    | succ r => simp only [taskStatusOf]
  | succ n ih =>
    cases route with
    | zero => simp only [taskStatusOf, WState.taskIdx?]
    | succ r => simp only [taskStatusOf, WState.taskIdx?, ih]

theorem fragEval_staged (st : WState) (X : List Staged) (P : List (Nat × TransId × Nat)) (e : Expr) : ∀ ec : EvalCtx,
    fragEval e { ec with st := some { st with staged := X, pubLog := P } } = fragEval e { ec with st := some st } := by
  induction e with
  | taskStatus t => intro ec; simp only [fragEval, taskStatusOf_staged]
  | succeeded | failed | completed => intro ec; simp only [fragEval, curTaskStatus, taskStatusOf_staged]
  | eq a b iha ihb | lt a b iha ihb | and a b iha ihb | or a b iha ihb | add a b iha ihb | div a b iha ihb =>
    intro ec; simp only [fragEval, iha, ihb]
  | not a iha => intro ec; simp only [fragEval, iha]
  | _ => intro ec; simp only [fragEval]

theorem fragEvaluator_itemsBlind : fragEvaluator.ItemsBlind := by
  intro st st' h e ec
  have hst : st' = { st with staged := st'.staged, pubLog := st'.pubLog } := by
    obtain ⟨h1, h2, h3, h4, h5, h6, _⟩ := h
    cases st'
    cases st
    simp only at h1 h2 h3 h4 h5 h6
    subst h1 h2 h3 h4 h5 h6
    rfl
  rw [hst]
  exact fragEval_staged st st'.staged st'.pubLog e ec

end Orq
