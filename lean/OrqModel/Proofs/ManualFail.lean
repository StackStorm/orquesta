/-
The remediation flag of the transition loop: `manualFail` is raised only by a `fail` command on a
transition whose condition held (C04: a failed workflow offers clean-up tasks only beside a fail
command that fired).
-/
import OrqModel.Proofs.Post
namespace Orq
variable (E : Evaluator)

theorem stageNext_mf (k : TaskKey) (idx : Nat) (e : Edge) (outIdxs : List Nat) (acc : TransAcc) :
    Post (stageNext k idx e outIdxs acc)
      (fun acc' => acc'.manualFail = true → acc.manualFail = true ∨ e.dst = "fail") := by
  unfold stageNext
  refine Post.bind fun _ => Post.bind fun _ => Post.bind fun _ => Post.bind fun _ => ?_
  split
  · refine Post.pure ?_
    intro h
    simp only [Bool.or_eq_true, beq_iff_eq] at h
    exact h
  · split
    · exact Post.pure fun h => Or.inl h
    · exact Post.pure fun h => Or.inl h

theorem fireTransition_mf (k : TaskKey) (idx : Nat) (ec : EvalCtx) (acc : TransAcc) (e : Edge) :
    Post (fireTransition E k idx ec acc e)
      (fun acc' => acc'.manualFail = true → acc.manualFail = true ∨ e.dst = "fail") := by
  unfold fireTransition
  refine Post.bind fun _ => Post.bind fun _ => Post.bind fun _ => ?_
  dsimp only
  generalize renderSeq E _ _ _ = r
  obtain ⟨x, newCtx, nerr⟩ := r
  dsimp only
  split
  · exact Post.bind fun _ => Post.bind fun _ => Post.pure fun h => Or.inl h
  · exact Post.bind fun _ => Post.bind fun _ => stageNext_mf _ _ _ _ _

theorem processTransition_mf (k : TaskKey) (idx : Nat) (ec : EvalCtx) (acc : TransAcc) (e : Edge) :
    Post (processTransition E k idx ec acc e)
      (fun acc' => acc'.manualFail = true →
        acc.manualFail = true ∨ (e.dst = "fail" ∧ transCriteria E e ec = some true)) := by
  unfold processTransition
  cases htc : transCriteria E e ec with
  | none =>
    exact Post.bind fun _ => Post.bind fun _ => Post.pure fun h => Or.inl h
  | some b =>
    refine Post.bind fun _ => ?_
    cases b with
    | false => exact Post.pure fun h => Or.inl h
    | true =>
      refine (fireTransition_mf E k idx ec acc e).mono fun a h hm => ?_
      rcases h hm with h1 | h1
      · exact Or.inl h1
      · exact Or.inr ⟨h1, rfl⟩

theorem foldTrans_mf (k : TaskKey) (idx : Nat) (ec : EvalCtx) (ts : List Edge) (acc : TransAcc) :
    Post (M.foldM' ts acc (processTransition E k idx ec))
      (fun acc' => acc'.manualFail = true →
        acc.manualFail = true ∨ ∃ e ∈ ts, e.dst = "fail" ∧ transCriteria E e ec = some true) := by
  refine Post.foldM' ts acc _ (fun h => Or.inl h) ?_
  intro b e hb he
  refine (processTransition_mf E k idx ec b e).mono fun a h hm => ?_
  rcases h hm with h1 | h1
  · exact hb h1
  · exact Or.inr ⟨e, he, h1⟩

end Orq
