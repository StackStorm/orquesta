/-
Reasoning about one model function at a time.  For each invariant a Hoare judgement ("from a state
in which the invariant holds, `m` leads to one in which it holds", with the step relation that
lets it be threaded), its loop rule, and the lemma that appending a record keeps it.  They stand on
their own: the history theorems follow the writes instead (`Steps.lean`, `Keep.lean`, `Reach.lean`).
-/
import OrqModel.Proofs.Steps
import OrqModel.Properties.Keys
import OrqModel.Proofs.Footprint

namespace Orq

/-- the step of the functions that never see the engine's retry event: a completed record keeps
    its status whether decided or not -/
structure RecStep (r r' : Rec) : Prop where
  status : Comp r → r'.status = r.status
  decided : r.next ≠ [] → r'.next ≠ []
  fresh : r'.next ≠ [] → r.next ≠ [] ∨ Comp r'

theorem RecStep.refl (r : Rec) : RecStep r r := ⟨fun _ => rfl, id, fun h => Or.inl h⟩

theorem RecStep.weak {r r' : Rec} (h : RecStep r r') : RecStepW r r' :=
  ⟨fun hc _ => h.status hc, h.decided, h.fresh⟩

theorem Comp.step {r r' : Rec} (h : RecStep r r') (hc : Comp r) : Comp r' := hc.of_status (h.status hc)

theorem RecStep.trans {a b c : Rec} (h1 : RecStep a b) (h2 : RecStep b c) : RecStep a c := by
  refine ⟨?_, fun h => h2.decided (h1.decided h), ?_⟩
  · intro hc
    rw [h2.status (Comp.step h1 hc), h1.status hc]
  · intro h
    rcases h2.fresh h with hb | hc
    · rcases h1.fresh hb with ha | hcb
      · exact Or.inl ha
      · exact Or.inr (Comp.step h2 hcb)
    · exact Or.inr hc

/-- the relation on conductor states: every record evolves by `RecStep`, new records are undecided
    or completed -/
structure DecStepR (c c' : Cond) : Prop where
  old : ∀ (i : Nat) (r : Rec), c.st.sequence[i]? = some r → ∃ r', c'.st.sequence[i]? = some r' ∧ RecStep r r'
  new : ∀ (i : Nat) (r' : Rec), c'.st.sequence[i]? = some r' → c.st.sequence[i]? = none → r'.next ≠ [] → Comp r'

theorem DecStepR.weak {c c' : Cond} (h : DecStepR c c') : DecStepW c c' :=
  ⟨fun i r hr => by obtain ⟨r', hr', s⟩ := h.old i r hr; exact ⟨r', hr', s.weak⟩, h.new⟩

theorem DecStepR.refl (c : Cond) : DecStepR c c :=
  have h := RecsStep.refl (ν := fun r => r.next ≠ [] → Comp r) RecStep.refl c
  ⟨h.old, h.new⟩

theorem DecStepR.trans {a b c : Cond} (h1 : DecStepR a b) (h2 : DecStepR b c) : DecStepR a c :=
  have h := RecsStep.trans (ρ := RecStep) (ν := fun r => r.next ≠ [] → Comp r) RecStep.trans (fun h s => s.weak.dec h) ⟨h1.old, h1.new⟩ ⟨h2.old, h2.new⟩
  ⟨h.old, h.new⟩

def decStep : Pre := ⟨DecStepR, DecStepR.refl, DecStepR.trans⟩

/-- decided (hence completed) records are frozen -/
theorem DecStepR.frozen {c c' : Cond} (h : DecStepR c c') (hd : Dec c) (i : Nat) (r : Rec)
    (hr : c.st.sequence[i]? = some r) (hn : r.next ≠ []) :
    ∃ r', c'.st.sequence[i]? = some r' ∧ r'.status = r.status ∧ r'.next ≠ [] :=
  h.weak.frozen hd i r hr hn

/-- a small Hoare judgement: from a state where decided records are completed, `m` makes a weak step -/
def DW {α} (m : M α) : Prop := ∀ c, Dec c → DecStepW c (m c).2

theorem DW.forEach {α} (xs : List α) {f : α → M Unit} (hf : ∀ x, DW (f x)) : DW (M.forEach xs f) := fun c hd =>
  (M.forEach_keeps (fun c' => Dec c' ∧ DecStepW c c') xs f
    (fun a s hs => ⟨Dec.stepW (hf a s hs.1) hs.1, hs.2.trans (hf a s hs.1)⟩) c ⟨hd, DecStepW.refl c⟩).2

/-- a Hoare judgement: from a state where decided records are completed, `m` keeps the decisions
    (and makes a weak step, so that the invariant can be threaded) -/
def KW {α} (m : M α) : Prop := ∀ c, Dec c → (DecStepW c (m c).2 ∧ NK c (m c).2)

theorem KW.forEach {α} (xs : List α) {f : α → M Unit} (hf : ∀ x, KW (f x)) : KW (M.forEach xs f) := fun c hd =>
  (M.forEach_keeps (fun c' => Dec c' ∧ DecStepW c c' ∧ NK c c') xs f
    (fun a s hs => ⟨Dec.stepW (hf a s hs.1).1 hs.1, hs.2.1.trans (hf a s hs.1).1, hs.2.2.trans (hf a s hs.1).2⟩) c
    ⟨hd, DecStepW.refl c, NK.refl c⟩).2

/-- how staged entries and records may change without new justification being needed -/
structure PrevStep (c c' : Cond) : Prop where
  staged : ∀ x' ∈ c'.st.staged, ∃ x ∈ c.st.staged, x'.prev = x.prev ∧ x'.id = x.id ∧ x'.ctxsIn = x.ctxsIn
  recs : ∀ (i : Nat) (r' : Rec), c'.st.sequence[i]? = some r' → ∃ r, c.st.sequence[i]? = some r ∧ r'.prev = r.prev

theorem PrevStep.refl (c : Cond) : PrevStep c c :=
  ⟨fun x hx => ⟨x, hx, rfl, rfl, rfl⟩, fun _ r h => ⟨r, h, rfl⟩⟩

theorem PrevStep.trans {a b c : Cond} (h1 : PrevStep a b) (h2 : PrevStep b c) : PrevStep a c := by
  refine ⟨?_, ?_⟩
  · intro x'' hx''
    obtain ⟨x', hx', e2⟩ := h2.staged x'' hx''
    obtain ⟨x, hx, e1⟩ := h1.staged x' hx'
    exact ⟨x, hx, e2.1.trans e1.1, e2.2.1.trans e1.2.1, e2.2.2.trans e1.2.2⟩
  · intro i r'' hr''
    obtain ⟨r', hr', e2⟩ := h2.recs i r'' hr''
    obtain ⟨r, hr, e1⟩ := h1.recs i r' hr'
    exact ⟨r, hr, e2.trans e1⟩

/-- the preorder of the functions that need no new justification -/
def jStep : Pre where
  R c c' := DecStepR c c' ∧ PrevStep c c'
  refl c := ⟨DecStepR.refl c, PrevStep.refl c⟩
  trans h1 h2 := ⟨h1.1.trans h2.1, h1.2.trans h2.2⟩

theorem Rel.j_of {α} {m : M α} (h1 : Rel decStep m) (h2 : ∀ c, PrevStep c (m c).2) : Rel jStep m :=
  ⟨fun c => ⟨h1.run c, h2 c⟩⟩

def JW {α} (m : M α) : Prop := ∀ c, Dec c → Just c → (DecStepW c (m c).2 ∧ Just (m c).2)

theorem JW.forEach {α} (xs : List α) {f : α → M Unit} (hf : ∀ x, JW (f x)) : JW (M.forEach xs f) := fun c hd hj =>
  (M.forEach_keeps (fun c' => Dec c' ∧ Just c' ∧ DecStepW c c') xs f
    (fun a s hs => ⟨Dec.stepW (hf a s hs.1 hs.2.1).1 hs.1, (hf a s hs.1 hs.2.1).2, hs.2.2.trans (hf a s hs.1 hs.2.1).1⟩) c
    ⟨hd, hj, DecStepW.refl c⟩).2.symm

structure JJ {α} (m : M α) : Prop where
  run : ∀ c, Just c → Just (m c).2

theorem JJ.forEach {α} (xs : List α) {f : α → M Unit} (hf : ∀ x, JJ (f x)) : JJ (M.forEach xs f) :=
  ⟨M.forEach_keeps Just xs f fun a => (hf a).run⟩

structure Inv (c : Cond) : Prop where
  dec : Dec c
  tk : TK c
  gk : KeysOk c.graph.edges
  jt : JT c

structure JI {α} (m : M α) : Prop where
  run : ∀ c, Inv c → Inv (m c).2

theorem JI.forEach {α} (xs : List α) {f : α → M Unit} (hf : ∀ x, JI (f x)) : JI (M.forEach xs f) :=
  ⟨M.forEach_keeps Inv xs f fun a => (hf a).run⟩

structure Inv2 (c : Cond) : Prop where
  inv : Inv c
  ca : CA c

structure JI2 {α} (m : M α) : Prop where
  run : ∀ c, Inv2 c → Inv2 (m c).2

theorem JI2.forEach {α} (xs : List α) {f : α → M Unit} (hf : ∀ x, JI2 (f x)) : JI2 (M.forEach xs f) :=
  ⟨M.forEach_keeps Inv2 xs f fun a => (hf a).run⟩

structure Inv3 (c : Cond) : Prop where
  inv2 : Inv2 c
  inh : IN c
  pl : PL c

structure JI3 {α} (m : M α) : Prop where
  run : ∀ c, Inv3 c → Inv3 (m c).2

theorem JI3.forEach {α} (xs : List α) {f : α → M Unit} (hf : ∀ x, JI3 (f x)) : JI3 (M.forEach xs f) :=
  ⟨M.forEach_keeps Inv3 xs f fun a => (hf a).run⟩

theorem Rel.mk_ok {α} {m : M α} (h : Rel nxaPre m) {c c1 : Cond} {r : Except Err α} (hrun : m c = (r, c1)) :
    MK c c1 := by
  have := h.run c
  rw [hrun] at this
  exact ⟨fun i r m hr hm => by obtain ⟨r', hr', e⟩ := this.keep i r hr; exact ⟨r', hr', e ▸ hm⟩⟩

structure Inv5 (c : Cond) : Prop where
  tk : TK c
  ne : NE c

structure JI5 {α} (m : M α) : Prop where
  run : ∀ c, Inv5 c → Inv5 (m c).2

theorem JI5.forEach {α} (xs : List α) {f : α → M Unit} (hf : ∀ x, JI5 (f x)) : JI5 (M.forEach xs f) :=
  ⟨M.forEach_keeps Inv5 xs f fun a => (hf a).run⟩

structure JN {α} (m : M α) : Prop where
  run : ∀ c, IN c → IN (m c).2

theorem JN.forEach {α} (xs : List α) {f : α → M Unit} (hf : ∀ x, JN (f x)) : JN (M.forEach xs f) :=
  ⟨M.forEach_keeps IN xs f fun a => (hf a).run⟩

theorem JN.foldM' {α β} (xs : List α) (b : β) {f : β → α → M β} (hf : ∀ b a, JN (f b a)) : JN (M.foldM' xs b f) :=
  ⟨M.foldM'_keeps IN xs b f fun b a => (hf b a).run⟩

/-- appending a record (whatever index the task-key map is then given): the staging area stays, the
    existing records stay in place -/
theorem Listed.append {Φ : Cond → String → List (TransId × Nat) → List Nat → Prop} {c : Cond} (r0 : Rec) (k : TaskKey) (n : Nat)
    (hl : Listed Φ c)
    (hmono : ∀ c' : Cond, c'.st.pubLog = c.st.pubLog →
      (∀ (i : Nat) (q : Rec), c.st.sequence[i]? = some q → c'.st.sequence[i]? = some q) →
      ∀ id p cs, Φ c id p cs → Φ c' id p cs)
    (hnew : Φ c r0.id r0.prev r0.ctxsIn) :
    Listed Φ { c with st := ({ c.st with sequence := c.st.sequence ++ [r0] } : WState).setTask k n } := by
  have hseq : (({ c.st with sequence := c.st.sequence ++ [r0] } : WState).setTask k n).sequence = c.st.sequence ++ [r0] :=
    WState.setTask_sequence ..
  have hm := hmono { c with st := ({ c.st with sequence := c.st.sequence ++ [r0] } : WState).setTask k n }
    (WState.setTask_pubLog ..) fun i q hq => by
      show (WState.setTask _ k n).sequence[i]? = _
      rw [hseq, List.getElem?_append_left (List.getElem?_eq_some_iff.mp hq).1]
      exact hq
  have hstg : (({ c.st with sequence := c.st.sequence ++ [r0] } : WState).setTask k n).staged = c.st.staged :=
    WState.setTask_staged ..
  constructor
  · intro x hx
    exact hm _ _ _ (hl.staged x (hstg ▸ hx))
  · intro r hr
    obtain hr | hr := List.mem_append.mp (hseq ▸ hr)
    · exact hm _ _ _ (hl.recs r hr)
    · rw [List.mem_singleton.mp hr]
      exact hm _ _ _ hnew

theorem Just.append (c : Cond) (r0 : Rec) (k : TaskKey) (n : Nat) (hj : Just c) (h0 : r0.next = [])
    (hb : PrevOk c r0.prev) :
    Just { c with st := ({ c.st with sequence := c.st.sequence ++ [r0] } : WState).setTask k n } := by
  have h := Listed.append (Φ := fun c _ p _ => PrevOk c p) r0 k n ⟨hj.staged, hj.recs⟩
    (fun c' _ hs _ p _ h q hq => by obtain ⟨r, hr, h'⟩ := h q hq; exact ⟨r, hs _ _ hr, h'⟩) hb
  exact ⟨h.staged, h.recs⟩

theorem JT.append (c : Cond) (r0 : Rec) (k : TaskKey) (n : Nat) (hj : JT c) (hb : PrevT c r0.id r0.prev) :
    JT { c with st := ({ c.st with sequence := c.st.sequence ++ [r0] } : WState).setTask k n } := by
  have h := Listed.append (Φ := fun c id p _ => PrevT c id p) r0 k n ⟨hj.staged, hj.recs⟩
    (fun c' _ hs _ p _ h q hq => by obtain ⟨r, hr, h'⟩ := h q hq; exact ⟨r, hs _ _ hr, h'⟩) hb
  exact ⟨h.staged, h.recs⟩

variable (E : Evaluator) in
theorem updateTaskState_tk (k ev) : Rel tkPre (updateTaskState E k ev) :=
  (updateTaskState_writes E k ev).of_run fun c w hw => Write.tkStep fun r k' e => by
    subst e
    obtain ⟨c1, a, b, rfl⟩ := hw
    exact newRecord_id ..

theorem CA.append (c : Cond) (r0 : Rec) (k : TaskKey) (n : Nat) (hj : CA c) (hb : CtxOk c r0.id r0.ctxsIn) :
    CA { c with st := ({ c.st with sequence := c.st.sequence ++ [r0] } : WState).setTask k n } := by
  have h := Listed.append (Φ := fun c id _ cs => CtxOk c id cs) r0 k n ⟨hj.staged, hj.recs⟩
    (fun c' hp hs _ _ _ h i hi => (h i hi).imp id fun ⟨idx, q, key, hq, hm, hv⟩ =>
      ⟨idx, q, key, hs _ _ hq, hm, hv.imp id fun hv => hp ▸ hv⟩) hb
  exact ⟨h.staged, h.recs⟩

theorem IN.append (c : Cond) (r0 : Rec) (k : TaskKey) (n : Nat) (hj : IN c) (hb : Inh c r0.prev r0.ctxsIn) :
    IN { c with st := ({ c.st with sequence := c.st.sequence ++ [r0] } : WState).setTask k n } := by
  have h := Listed.append (Φ := fun c _ p cs => Inh c p cs) r0 k n ⟨hj.staged, hj.recs⟩
    (fun c' _ hs _ _ _ h => ⟨h.1, fun p hp => by obtain ⟨q, hq, h'⟩ := h.2 p hp; exact ⟨q, hs _ _ hq, h'⟩⟩) hb
  exact ⟨h.staged, h.recs⟩

variable (E : Evaluator) in
/-- `add_task_state` with lists that inherit: the new record's lists are the given ones, an empty
    context list having become `[0]` -/
theorem addTaskState_jn_of (k : TaskKey) (a : List Nat) (b : List (TransId × Nat))
    (h : ∀ c, IN c → Inh c b a) : JN (addTaskState E k a b) := by
  refine ⟨fun c hj => ((addTaskState_appends E k a b).run c).inv (I := fun c' => IN c' ∧ c.st.Ext c'.st) (fun c' w hw hi => ?_)
    ⟨hj, .refl _⟩ |>.1⟩
  refine ⟨?_, hi.2.trans (Write.ext c' w)⟩
  have hl := Listed.write (w := w) (c := c') (Φ := fun c _ p cs => Inh c p cs) ⟨hi.1.staged, hi.1.recs⟩
    (fun _ _ _ h => h.mono (Write.ext c' w)) (by rintro _ _ _ _ rfl; cases hw) (by rintro _ rfl; cases hw)
    (by rintro _ _ rfl; cases hw) (by
      rintro r k' rfl
      obtain ⟨_, c1, rfl⟩ := hw
      rw [newRecord_prev, newRecord_ctxsIn]
      exact (((h c hj).mono hi.2).orZero).mono (Write.ext ..))
  exact ⟨hl.staged, hl.recs⟩

theorem PL.append (c : Cond) (r0 : Rec) (k : TaskKey) (n : Nat) (hj : PL c) (hb : PubOk c r0.id r0.prev r0.ctxsIn) :
    PL { c with st := ({ c.st with sequence := c.st.sequence ++ [r0] } : WState).setTask k n } := by
  have h := Listed.append (Φ := fun c id p cs => PubOk c id p cs) r0 k n ⟨hj.staged, hj.recs⟩
    (fun c' hp _ _ _ _ h => h.same hp) hb
  refine ⟨h.staged, h.recs, fun m hm => ?_⟩
  have hp : (({ c.st with sequence := c.st.sequence ++ [r0] } : WState).setTask k n).pubLog = c.st.pubLog :=
    WState.setTask_pubLog ..
  obtain ⟨q, hq, hmem⟩ := hj.logged m (hp ▸ hm)
  refine ⟨q, ?_, hmem⟩
  show (WState.setTask _ k n).sequence[m.1]? = _
  rw [WState.setTask_sequence, List.getElem?_append_left (List.getElem?_eq_some_iff.mp hq).1]
  exact hq

end Orq
