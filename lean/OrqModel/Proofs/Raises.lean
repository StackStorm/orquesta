/-
Which exception classes can leave a model computation: `Raises m X` says every exception `m`
lets out satisfies `X`.  `try/except Exception` handlers cut the set down to what the handler
itself can raise.
-/
import OrqModel.Proofs.Monad

namespace Orq

structure Raises {α} (m : M α) (X : Err → Prop) : Prop where
  run : ∀ s e s', m s = (.error e, s') → X e

namespace Raises

variable {X : Err → Prop}

theorem pure {α} (a : α) : Raises (Pure.pure a : M α) X := ⟨fun _ _ _ h => nomatch h⟩
theorem pure' {α} (a : α) : Raises (M.pure' a : M α) X := pure a
theorem get : Raises M.get X := ⟨fun _ _ _ h => nomatch h⟩
theorem modify (f) : Raises (M.modify f) X := ⟨fun _ _ _ h => nomatch h⟩
theorem modifySt (f) : Raises (M.modifySt f) X := ⟨fun _ _ _ h => nomatch h⟩

theorem throw {α} {e : Err} (h : X e) : Raises (M.throw e : M α) X :=
  ⟨fun _ _ _ heq => by cases heq; exact h⟩

theorem bind {α β} {m : M α} {f : α → M β} (hm : Raises m X) (hf : ∀ a, Raises (f a) X) :
    Raises (m >>= f) X :=
  ⟨fun s e s' heq => match M.bind_error heq with
    | .inl h1 => hm.run s e s' h1
    | .inr ⟨a, s1, _, h2⟩ => (hf a).run s1 e s' h2⟩

theorem bind' {α β} {m : M α} {f : α → M β} (hm : Raises m X) (hf : ∀ a, Raises (f a) X) :
    Raises (M.bind' m f) X := bind hm hf

/-- `try m except Exception as e: h e` lets out only what the handler raises -/
theorem tryCatch {α} {m : M α} {h : Err → M α} (hh : ∀ e, Raises (h e) X) : Raises (M.tryCatch m h) X :=
  ⟨fun _ e s' heq =>
    have ⟨e1, s1, _, h2⟩ := tryCatch_error heq
    (hh e1).run s1 e s' h2⟩

theorem liftOpt {α} (x : Option α) {e : Err} (h : X e) : Raises (liftOpt x e) X := by
  cases x with
  | some a => exact pure a
  | none => exact throw h

theorem liftExcept {α} (x : Except Err α) (h : ∀ e, x = .error e → X e) : Raises (M.liftExcept x) X := by
  cases x with
  | ok a => exact pure a
  | error e => exact throw (h e rfl)

theorem forEach {α} (xs : List α) {f : α → M Unit} (hf : ∀ a, Raises (f a) X) : Raises (M.forEach xs f) X := by
  induction xs with
  | nil => exact pure ()
  | cons x xs ih => exact bind' (hf x) (fun _ => ih)

theorem foldM' {α β} (xs : List α) (b : β) {f : β → α → M β} (hf : ∀ b a, Raises (f b a) X) :
    Raises (M.foldM' xs b f) X := by
  induction xs generalizing b with
  | nil => exact pure b
  | cons x xs ih => exact bind' (hf b x) (fun b' => ih b')

theorem mapM' {α β} (xs : List α) {f : α → M β} (hf : ∀ a, Raises (f a) X) : Raises (M.mapM' xs f) X := by
  induction xs with
  | nil => exact pure []
  | cons x xs ih => exact bind' (hf x) (fun _ => bind' ih (fun _ => pure _))

theorem ite {α} {c : Prop} [Decidable c] {a b : M α} (ha : Raises a X) (hb : Raises b X) :
    Raises (if c then a else b) X := by
  split <;> assumption

end Raises

end Orq
