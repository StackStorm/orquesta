/-
What each write leaves alone: the closed forms of the state-machine writes (status, records and
error log only) and, from them, the fields no write or only one kind of write touches.
-/
import OrqModel.Proofs.Write
import OrqModel.Proofs.StateLemmas

namespace Orq

theorem StgUpd.apply_eq (u : StgUpd) (st : WState) : ∃ l, u.apply st = { st with staged := l } := by
  cases u with
  | remove k => exact ⟨_, st.removeStaged_eq k⟩
  | _ => exact ⟨_, rfl⟩

theorem Write.log_st (e : ErrEntry) (c : Cond) : ((Write.log e).apply c).st = c.st := by
  unfold Write.apply
  dsimp only
  split <;> rfl

theorem Write.wf_apply {w : Write} (hw : (∃ k ev, w = .wfTask k ev) ∨ ∃ req, w = .wfReq req) (c : Cond) :
    ∃ s es, w.apply c = { c with st := { c.st with status := s }, errors := es } := by
  have h := w.refine c
  generalize w.apply c = c' at h
  induction h with
  | refl c => exact ⟨_, _, rfl⟩
  | step w' hw' _ ih =>
    obtain ⟨s, es, e⟩ := ih
    have hr : (∃ s, w' = .status s) ∨ ∃ e, w' = .log e := by
      obtain ⟨k, ev, rfl⟩ | ⟨req, rfl⟩ := hw <;> exact hw'
    obtain ⟨s', rfl⟩ | ⟨e', rfl⟩ := hr
    · exact ⟨s, es, e⟩
    · refine ⟨s, es, e.trans ?_⟩
      unfold Write.apply
      dsimp only
      split <;> rfl

theorem Write.machine_apply {w : Write} (c : Cond) (hw : ¬ w.fine) :
    w.apply c = { c with st := { c.st with status := (w.apply c).st.status, sequence := (w.apply c).st.sequence },
                         errors := (w.apply c).errors } := by
  cases w with
  | wfTask k ev => obtain ⟨s, es, e⟩ := Write.wf_apply (.inl ⟨k, ev, rfl⟩) c; rw [e]
  | wfReq req => obtain ⟨s, es, e⟩ := Write.wf_apply (.inr ⟨req, rfl⟩) c; rw [e]
  | tkReq i req => obtain e | ⟨_, s, _, _, e⟩ := Write.tkReq_apply i req c <;> rw [e]; rfl
  | tkEv i ev => obtain e | ⟨_, s, _, _, e⟩ := Write.tkEv_apply i ev c <;> rw [e]; rfl
  | _ => exact absurd trivial hw

theorem Write.graph_eq (w : Write) (c : Cond) : (w.apply c).spec = c.spec ∧ (w.apply c).graph = c.graph := by
  cases w with
  | log e => unfold Write.apply; dsimp only; split <;> exact ⟨rfl, rfl⟩
  | wfTask | wfReq | tkReq | tkEv => rw [Write.machine_apply c]; exact ⟨rfl, rfl⟩; exact id
  | _ => exact ⟨rfl, rfl⟩

theorem Write.pubLog_eq (w : Write) (c : Cond) (h : ∀ idx tid ctx n, w ≠ .publish idx tid ctx n) :
    (w.apply c).st.pubLog = c.st.pubLog := by
  cases w with
  | log e => rw [Write.log_st]
  | wfTask | wfReq | tkReq | tkEv => rw [Write.machine_apply c]; exact id
  | staged u => obtain ⟨l, hl⟩ := u.apply_eq c.st; simp only [Write.apply, hl]
  | appendRec r k => exact WState.setTask_pubLog ..
  | publish idx tid ctx n => exact absurd rfl (h idx tid ctx n)
  | _ => rfl

theorem Write.pubLog_publish (idx : Nat) (tid : TransId) (ctx : Val.Dict) (n : Nat) (c : Cond) :
    ((Write.publish idx tid ctx n).apply c).st.pubLog = c.st.pubLog ++ [(idx, tid, n)] := rfl

end Orq
