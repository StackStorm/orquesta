/-
Deciding facts about the generated state-machine functions by kernel evaluation over their whole
domain.  A fact about the status a table answers, `∀ s', f args = .ok s' → P s'`, is decided by
evaluating `f args` once (`StepRes.decForallOk`); `(f args).all? P = true` says the same without
the quantifier.
-/
import OrqModel.Generated.Tables

namespace Orq

def StepRes.all? (r : StepRes) (p : Status → Bool) : Bool :=
  match r with
  | .ok s => p s
  | .raise _ => true

def StepRes.isOk : StepRes → Bool
  | .ok _ => true
  | .raise _ => false

theorem StepRes.all?_ok {r : StepRes} {p : Status → Bool} (h : r.all? p = true) {s : Status}
    (hr : r = .ok s) : p s = true := by
  subst hr; exact h

/-- Without this instance `∀ s', r = .ok s' → P s'` is decided by `decForallEnum`, which evaluates
    `r` and `P` for each of the sixteen statuses.  Instance search falls back to that, silently, or
    fails, when `P` is large and under many quantifiers: such a predicate is stated on booleans
    with `all?`. -/
instance (priority := high) StepRes.decForallOk (r : StepRes) (P : Status → Prop) [DecidablePred P] :
    Decidable (∀ s', r = .ok s' → P s') :=
  match r with
  | .ok s => decidable_of_iff (P s) ⟨fun h s' e => by cases e; exact h, fun h => h s rfl⟩
  | .raise _ => isTrue (fun s' e => by cases e)

/-- `Status` derives `BEq` and `DecidableEq` separately; this ties them, so that `beq_iff_eq`,
    `bne_iff_ne` and `eq_of_beq` apply to statuses -/
instance : LawfulBEq Status where
  eq_of_beq {a b} h := by
    have h' : a.ctorIdx = b.ctorIdx := of_decide_eq_true h
    rw [← Status.ofNat_ctorIdx a, ← Status.ofNat_ctorIdx b, h']
  rfl {a} := decide_eq_true (rfl : a.ctorIdx = a.ctorIdx)

end Orq
