/-
Every API call is a run of guarded writes: the one place where `update_task_state` and the rerun
are followed step by step, to establish what `Guard` says the engine knows at each write.

`Sp` (`Sp.lean`) is the judgement in which that is done; `Calm`, `Evald`, `Restaged`, `Grown` are
the frames the specifications hand to one another; `runOp_guarded` is the result, and `history_keeps`
lifts an invariant of guarded writes to every point of every history.
-/
import OrqModel.Proofs.Sp
import OrqModel.Proofs.Footprint

namespace Orq

variable (E : Evaluator) {a : Assume} {c0 : Cond}

/-- what the writes that need no licence keep: every record its identity, lists and decisions, and
    its status if that is completed; the task-key map, the publication log, the graph -/
structure Calm (c c' : Cond) : Prop where
  recs : ∀ (i : Nat) (r : Rec), c.st.sequence[i]? = some r → ∃ r', c'.st.sequence[i]? = some r' ∧
    r'.core = r.core ∧ r'.next = r.next ∧ (Comp r → r'.status = r.status)
  tasks : c'.st.tasks = c.st.tasks
  pubLog : c'.st.pubLog = c.st.pubLog
  graph : c'.graph = c.graph

def calmPre : Pre where
  R := Calm
  refl c := ⟨fun _ r h => ⟨r, h, rfl, rfl, fun _ => rfl⟩, rfl, rfl, rfl⟩
  trans h1 h2 := by
    refine ⟨fun i r hr => ?_, h2.tasks.trans h1.tasks, h2.pubLog.trans h1.pubLog, h2.graph.trans h1.graph⟩
    obtain ⟨r', hr', e1, e2, e3⟩ := h1.recs i r hr
    obtain ⟨r'', hr'', f1, f2, f3⟩ := h2.recs i r' hr'
    exact ⟨r'', hr'', f1.trans e1, f2.trans e2, fun hc => (f3 (hc.of_status (e3 hc))).trans (e3 hc)⟩

theorem Write.calm {w : Write} (h : w.quiet) (c : Cond) : Calm c (w.apply c) := by
  refine ⟨fun i r hr => Write.oldStep (ρ := fun r r' => r'.core = r.core ∧ r'.next = r.next ∧ (Comp r → r'.status = r.status))
      (fun _ => ⟨rfl, rfl, fun _ => rfl⟩) hr fun g hm => ?_,
    Write.tasks_eq w c ?_, Write.pubLog_eq w c ?_, (Write.graph_eq w c).2⟩
  · cases hm with
    | record i u => cases u <;> first | exact ⟨rfl, rfl, fun _ => rfl⟩ | cases h
    | publish => cases h
    | tkEv => cases h
    | tkReq i req r0 s h1 h2 =>
      rw [hr] at h1
      cases h1
      refine ⟨rfl, rfl, ?_⟩
      rintro ⟨tk, hs, hc⟩
      rw [hs] at h2
      rw [hs, tkMove_completed (tbl_tk_wf tk req _ _ _ _ h2) hc]
  · rintro r k rfl; exact h
  · rintro idx tid ctx n rfl; exact h

theorem Run.calm {c c' : Cond} (h : Run (fun _ => Write.quiet) c c') : Calm c c' :=
  h.rel (P := calmPre) fun c _ hw => Write.calm hw c

theorem Run.fails_staged {c c' : Cond} (h : Run (fun _ => Write.fails) c c') : c'.st.staged = c.st.staged :=
  h.rel (P := ⟨fun c c' => c'.st.staged = c.st.staged, fun _ => rfl, fun h1 h2 => h2.trans h1⟩) fun c w hw =>
    Write.staged_eq w c (by rintro u rfl; exact hw) (by rintro x r rfl; exact hw)

theorem quiet_guard {c : Cond} {w : Write} (h : w.quiet) : Guard a c0 c w := by
  cases w with
  | staged u | record _ u => cases u <;> first | trivial | cases h
  | _ => first | trivial | cases h

theorem isReq_guard {c : Cond} {w : Write} {s : Status} (h : w.isReq s) : Guard a c0 c w := by
  cases w <;> first | trivial | cases h

theorem query_guard {c : Cond} {w : Write} (h : w.query) : Guard a c0 c w := by
  cases w with
  | staged u => cases u <;> first | trivial | cases h
  | _ => first | trivial | cases h

theorem render_guard {c : Cond} {w : Write} (h : w.render) : Guard a c0 c w := by
  cases w <;> first | trivial | cases h

theorem inits_guard {c : Cond} {w : Write} (h : w.inits) : Guard a c0 c w := by
  cases w <;> first | trivial | cases h

theorem Calm.of_eq {c c' : Cond} (hs : c'.st.sequence = c.st.sequence) (ht : c'.st.tasks = c.st.tasks)
    (hp : c'.st.pubLog = c.st.pubLog) (hg : c'.graph = c.graph) : Calm c c' :=
  ⟨fun _ r h => ⟨r, hs ▸ h, rfl, rfl, fun _ => rfl⟩, ht, hp, hg⟩

theorem Calm.comp {c c' : Cond} (h : Calm c c') {i : Nat} {r : Rec} (hr : c.st.sequence[i]? = some r) (hc : Comp r) :
    ∃ r', c'.st.sequence[i]? = some r' ∧ r'.core = r.core ∧ r'.next = r.next ∧ Comp r' := by
  obtain ⟨r', hr', e1, e2, e4⟩ := h.recs i r hr
  exact ⟨r', hr', e1, e2, hc.of_status (e4 hc)⟩

theorem Arrival.calm {c c' : Cond} {id : String} {backref : TransId} {idx : Nat} {outIdxs : List Nat}
    (hk : Calm c c') (h : Arrival a c id backref idx outIdxs) : Arrival a c' id backref idx outIdxs := by
  obtain ⟨r, hr, hc, hm, h1, h2, h4⟩ := h
  obtain ⟨r', hr', e1, e2, hc'⟩ := hk.comp hr hc
  rw [← Rec.core_ctxsIn e1] at h1 h2
  rw [← hk.pubLog] at h2 h4
  exact ⟨r', hr', hc', e2 ▸ hm, h1, h2, h4⟩

theorem Arrival.of_record {c : Cond} {r : Rec} {id : String} {backref : TransId} {idx : Nat} (hr : c.st.sequence[idx]? = some r)
    (hc : Comp r) (hm : (((id, backref.2) : TransId), true) ∈ r.next)
    (hnone : a.full → ∀ i, (idx, ((id, backref.2) : TransId), i) ∉ c.st.pubLog) : Arrival a c id backref idx r.ctxsIn :=
  ⟨r, hr, hc, hm, fun _ h => h, fun _ h => .inl h, fun hf i hi => absurd hi (hnone hf i)⟩

theorem Arrival.of_publish {c : Cond} {r : Rec} {id : String} {backref : TransId} {idx : Nat} (hr : c.st.sequence[idx]? = some r)
    (hc : Comp r) (hm : (((id, backref.2) : TransId), true) ∈ r.next)
    (hnone : a.full → ∀ i, (idx, ((id, backref.2) : TransId), i) ∉ c.st.pubLog) (ctx : Val.Dict) :
    Arrival a ((Write.publish idx (id, backref.2) ctx c.st.contexts.length).apply c) id backref idx
      (r.ctxsIn ++ [c.st.contexts.length]) := by
  refine ⟨_, Write.getElem_publish idx (id, backref.2) ctx c.st.contexts.length hr, hc, hm,
    fun _ h => List.mem_append_left _ h, fun i hi => ?_, fun hf i hi => ?_⟩
  · obtain h | h := List.mem_append.mp hi
    · exact .inl h
    · rw [List.mem_singleton.mp h]
      exact .inr (List.mem_append_right _ (List.mem_singleton.mpr rfl))
  · obtain h | h := List.mem_append.mp (show _ ∈ c.st.pubLog ++ [_] from hi)
    · exact absurd h (hnone hf i)
    · rw [(Prod.mk.inj (Prod.mk.inj (List.mem_singleton.mp h)).2).2]
      exact List.mem_append_right _ (List.mem_singleton.mpr rfl)

/-- a transition that record `idx` has not decided yet is named by nobody and nothing is logged as
    published on it (`JT`, `Logged`); recording the decision changes neither -/
theorem NoRef.after_decide {c : Cond} {idx : Nat} {tid : TransId} {r : Rec} (hjt : JT c) (hlog : Logged c)
    (hr : c.st.sequence[idx]? = some r) (hfresh : ∀ m ∈ r.next, m.1 ≠ tid) (b : Bool) :
    NoRef ((Write.record idx (.decide tid b)).apply c) idx tid ∧
      ∀ i, (idx, tid, i) ∉ ((Write.record idx (.decide tid b)).apply c).st.pubLog := by
  have hf : FreshAt c idx tid := fun q hq => by rw [hr] at hq; cases hq; exact hfresh
  obtain ⟨hn1, hn2⟩ := NoRef.of_fresh hjt hf
  refine ⟨⟨hn1, fun r' hr' => ?_⟩, fun i hi => ?_⟩
  · obtain ⟨j, hj⟩ := List.getElem?_of_mem hr'
    obtain ⟨q, hq, hcore⟩ | ⟨_, k', hk'⟩ := Write.getElem_sequence hj
    · rw [Rec.core_id hcore, Rec.core_prev hcore]
      exact hn2 q (List.mem_of_getElem? hq)
    · cases hk'
  · obtain ⟨q, hq, hm⟩ := hlog _ hi
    exact hf q hq _ hm rfl

theorem stageTarget_sp (nk : TaskKey) (backref : TransId) (idx : Nat) (outIdxs : List Nat) (c : Cond)
    (h : Arrival a c nk.1 backref idx outIdxs) :
    Sp a c0 c (stageTarget nk backref idx outIdxs) fun _ c' => Calm c c' := by
  unfold stageTarget
  refine Sp.bind_get ?_
  split
  · refine Sp.bind_liftOpt fun rest he => ?_
    exact Sp.write (.staged (.arrive nk rest backref idx)) rfl ⟨outIdxs, h, he⟩ fun _ => .of_eq rfl rfl rfl rfl
  · exact Sp.write (.staged (.add _)) rfl (.inl ⟨backref, idx, outIdxs, h, rfl, rfl⟩) fun _ => .of_eq rfl rfl rfl rfl

theorem stageNext_sp (k : TaskKey) (idx : Nat) (e : Edge) (outIdxs : List Nat) (acc : TransAcc) (c : Cond)
    (h : Arrival a c e.dst (k.1, e.key) idx outIdxs) :
    Sp a c0 c (stageNext k idx e outIdxs acc) fun _ c' => Calm c c' := by
  unfold stageNext
  refine Sp.bind (Sp.of_writes (evaluateRoute_writes e k.2) fun _ _ => quiet_guard) fun nextRoute c1 hq => ?_
  have h1 := hq.calm
  refine Sp.bind (stageTarget_sp (e.dst, nextRoute) (k.1, e.key) idx outIdxs c1 (h.calm h1)) fun _ c2 h2 => ?_
  refine Sp.bind_get ?_
  refine Sp.bind (Sp.write (Q := fun _ c' => Calm c c') (.staged (.ready _ _)) rfl trivial
    fun _ => calmPre.trans h1 (calmPre.trans h2 (.of_eq rfl rfl rfl rfl))) fun _ c3 h3 => ?_
  split
  · exact Sp.pure h3
  · split <;> exact Sp.pure h3

/-- across the evaluation of transition `tid` of record `idx`: the record keeps its identity and its
    completed status, and gains at most decisions on `tid`; the graph stays -/
structure Evald (idx : Nat) (tid : TransId) (c c' : Cond) : Prop where
  record : ∀ r, c.st.sequence[idx]? = some r → ∃ r', c'.st.sequence[idx]? = some r' ∧ r'.core = r.core ∧
    (Comp r → Comp r') ∧ ∀ m ∈ r'.next, m ∈ r.next ∨ m.1 = tid
  graph : c'.graph = c.graph

theorem Evald.trans {idx : Nat} {tid : TransId} {c1 c2 c3 : Cond} (h1 : Evald idx tid c1 c2) (h2 : Evald idx tid c2 c3) :
    Evald idx tid c1 c3 := by
  refine ⟨fun r hr => ?_, h2.graph.trans h1.graph⟩
  obtain ⟨r', hr', e1, e2, e3⟩ := h1.record r hr
  obtain ⟨r'', hr'', f1, f2, f3⟩ := h2.record r' hr'
  refine ⟨r'', hr'', f1.trans e1, fun hc => f2 (e2 hc), fun m hm => ?_⟩
  obtain h | h := f3 m hm
  · exact e3 m h
  · exact .inr h

theorem Evald.of_record {idx : Nat} {tid : TransId} {c c' : Cond} {r r' : Rec} (hr : c.st.sequence[idx]? = some r)
    (hr' : c'.st.sequence[idx]? = some r') (hcore : r'.core = r.core) (hcomp : Comp r → Comp r')
    (hnext : ∀ m ∈ r'.next, m ∈ r.next ∨ m.1 = tid) (hg : c'.graph = c.graph) : Evald idx tid c c' :=
  ⟨fun q hq => by rw [hr] at hq; cases hq; exact ⟨r', hr', hcore, hcomp, hnext⟩, hg⟩

theorem Calm.evald {idx : Nat} {tid : TransId} {c c' : Cond} (h : Calm c c') : Evald idx tid c c' := by
  refine ⟨fun r hr => ?_, h.graph⟩
  obtain ⟨r', hr', e1, e2, e4⟩ := h.recs idx r hr
  exact ⟨r', hr', e1, fun hc => hc.of_status (e4 hc), fun m hm => .inl (e2 ▸ hm)⟩

/-- the error exit of `fireTransition` and `processTransition` -/
theorem fails_block_sp (kind : String) (x : Option String) (y : Option Nat) (z : Option TransId) {α} (v : α) (c : Cond) :
    Sp a c0 c (do logError kind x y z; failOnError; pure v : M α) fun _ c' => Calm c c' :=
  (Sp.of_writes (F := Write.fails) (by writes_walk [failOnError_writes]) fun _ _ h => quiet_guard (Write.fails_quiet h)).mono
    fun _ _ h => (h.mono fun _ _ => Write.fails_quiet).calm

theorem fireTransition_sp (k : TaskKey) (idx : Nat) (ec : EvalCtx) (acc : TransAcc) (e : Edge) (c : Cond)
    (hsrc : ∃ r, c.st.sequence[idx]? = some r ∧ Comp r ∧ (((e.dst, e.key) : TransId), true) ∈ r.next)
    (hfull : a.full → NoRef c idx (e.dst, e.key) ∧ ∀ i, (idx, ((e.dst, e.key) : TransId), i) ∉ c.st.pubLog) :
    Sp a c0 c (fireTransition E k idx ec acc e) fun _ c' => Evald idx (e.dst, e.key) c c' := by
  unfold fireTransition
  refine Sp.bind_get (Sp.bind_liftOpt fun ts _ => Sp.bind_liftOpt fun tr _ => ?_)
  dsimp only
  generalize renderSeq E _ _ _ = rs
  obtain ⟨ra, newCtx, nerr⟩ := rs
  dsimp only
  split
  · exact (fails_block_sp _ _ _ _ _ c).mono fun _ _ h => h.evald
  · refine Sp.bind_liftOpt fun r hr => ?_
    obtain ⟨r0, hr0, hc, hm⟩ := hsrc
    rw [hr] at hr0
    cases hr0
    split
    · refine Sp.bind_pure ?_
      exact (stageNext_sp k idx e r.ctxsIn acc c (.of_record hr hc hm fun hf => (hfull hf).2)).mono fun _ _ h => h.evald
    · refine Sp.bind_write (.publish idx (e.dst, e.key) newCtx c.st.contexts.length) rfl
        ⟨⟨r, hr, hm⟩, fun hf => (hfull hf).1⟩ fun _ => ?_
      have hr1 := Write.getElem_publish idx (e.dst, e.key) newCtx c.st.contexts.length hr
      refine (stageNext_sp k idx e (r.ctxsIn ++ [c.st.contexts.length]) acc _
        (.of_publish (backref := (k.1, e.key)) hr hc hm (fun hf => (hfull hf).2) newCtx)).mono fun _ _ h =>
          Evald.trans (.of_record hr hr1 rfl id (fun _ h => .inl h) rfl) h.evald

theorem processTransition_sp (k : TaskKey) (idx : Nat) (ec : EvalCtx) (acc : TransAcc) (e : Edge) (c : Cond)
    (hrec : ∃ r, c.st.sequence[idx]? = some r ∧ Comp r ∧ (a.tk → r.id = k.1 ∧ EdgeOf c k.1 (e.dst, e.key)) ∧
      (a.full → (∀ m ∈ r.next, m.1 ≠ ((e.dst, e.key) : TransId)) ∧ Undecided c0 idx)) :
    Sp a c0 c (processTransition E k idx ec acc e) fun _ c' => Evald idx (e.dst, e.key) c c' := by
  obtain ⟨r, hr, hc, htk, hfr⟩ := hrec
  refine Sp.carried fun hcar => ?_
  unfold processTransition
  dsimp only
  split
  · exact (fails_block_sp _ _ _ _ _ c).mono fun _ _ h => h.evald
  · rename_i b _
    refine Sp.bind_write (.record idx (.decide (e.dst, e.key) b)) rfl
      ⟨r, hr, hc, fun ht => (htk ht).1 ▸ (htk ht).2, hfr⟩ fun _ => ?_
    have hr1 : _ = some { r with next := setAssoc r.next (e.dst, e.key) b } := Write.getElem_record idx (.decide (e.dst, e.key) b) hr
    have hev : Evald idx (e.dst, e.key) c ((Write.record idx (.decide (e.dst, e.key) b)).apply c) :=
      .of_record hr hr1 rfl id (fun m hm => (mem_setAssoc_iff.mp hm).imp And.left fun h => by rw [h]) rfl
    split
    · exact Sp.pure hev
    · rename_i hb
      rw [Bool.not_eq_true', Bool.not_eq_false] at hb
      subst hb
      exact (fireTransition_sp E k idx ec acc e _ ⟨_, hr1, hc, mem_setAssoc_self⟩ fun hf =>
        NoRef.after_decide (hcar.inv hf).jt (hcar.inv hf).logged hr (hfr hf).1 true).mono fun _ _ h => hev.trans h

theorem evalTransitions_sp (k : TaskKey) (idx : Nat) (ts : TaskSpec) (ev : Event) (c : Cond)
    (hrec : ∃ r, c.st.sequence[idx]? = some r ∧ Comp r ∧ (a.tk → r.id = k.1) ∧ (a.full → r.next = [] ∧ Undecided c0 idx)) :
    Sp a c0 c (evalTransitions E k idx ts ev) fun _ _ => True := by
  obtain ⟨r, hr, hc, hid, hfr⟩ := hrec
  unfold evalTransitions
  refine Sp.bind_rel (fun P => makeTaskContext_rel k idx _) fun ec => Sp.bind_get ?_
  dsimp only
  refine Sp.bind (Q := fun _ c1 => Calm c c1) ?_ fun _ c1 hk => Sp.carried fun hcar1 => ?_
  · split
    · exact Sp.write (.record idx (.term true)) rfl trivial fun _ => Write.calm (w := .record idx (.term true)) trivial c
    · exact Sp.pure (calmPre.refl c)
  -- the record, as the loop finds it before each of the remaining transitions
  let I : List Edge → TransAcc → Cond → Prop := fun rest _ c' =>
    (∃ r', c'.st.sequence[idx]? = some r' ∧ Comp r' ∧ r'.id = r.id ∧
      (a.full → ∀ e ∈ rest, ∀ m ∈ r'.next, m.1 ≠ ((e.dst, e.key) : TransId))) ∧
    c'.graph = c.graph ∧ (∀ e ∈ rest, e ∈ c.graph.nextTransitions k.1) ∧
    (a.full → (rest.map fun e => ((e.dst, e.key) : TransId)).Nodup)
  obtain ⟨r1, hr1, e1, e2, hc1⟩ := hk.comp hr hc
  refine Sp.bind (Sp.foldM' I _ _ c1 ⟨⟨r1, hr1, hc1, Rec.core_id e1, fun hf _ _ m hm => by rw [e2, (hfr hf).1] at hm; cases hm⟩,
    hk.graph, fun _ h => h, fun hf => nextTransitions_nodup _ _ (hk.graph ▸ (hcar1.inv hf).gk)⟩
    fun x rest acc c' ⟨⟨r', hr', hc', hid', hfr'⟩, hg, hmem, hnd⟩ => ?_) fun acc _ _ => ?_
  · have hx := (C14_next_transitions_exact c.graph k.1 x).mp (hmem x List.mem_cons_self)
    refine (processTransition_sp E k idx ec acc x c' ⟨r', hr', hc', fun ht => ⟨hid'.trans (hid ht),
      x, hg ▸ hx.1, eq_of_beq hx.2, rfl, rfl⟩, fun hf => ⟨hfr' hf x List.mem_cons_self, (hfr hf).2⟩⟩).mono fun _ c'' hev => ?_
    obtain ⟨r'', hr'', e1, e2, e3⟩ := hev.record r' hr'
    refine ⟨⟨r'', hr'', e2 hc', (Rec.core_id e1).trans hid', fun hf e he m hm => ?_⟩, hev.graph.trans hg,
      fun e he => hmem e (List.mem_cons_of_mem _ he), fun hf => (List.nodup_cons.mp (hnd hf)).2⟩
    obtain h | h := e3 m hm
    · exact hfr' hf e (List.mem_cons_of_mem _ he) m h
    · rw [h]
      intro heq
      exact (List.nodup_cons.mp (hnd hf)).1 (List.mem_map.mpr ⟨e, he, heq.symm⟩)
  · refine Sp.bind (Q := fun _ _ => True) ?_ fun _ _ _ => Sp.pure trivial
    split
    · exact (Sp.of_writes (F := Write.quiet) (by writes_walk []) fun _ _ => quiet_guard).mono fun _ _ _ => trivial
    · exact Sp.pure trivial

/-- what `add_task_state` keeps: the staging area and the existing records -/
structure Grown (c c' : Cond) : Prop where
  staged : c'.st.staged = c.st.staged
  ext : c.st.Ext c'.st

theorem addTaskState_sp (k : TaskKey) (ctxsIn : List Nat) (prev : List (TransId × Nat)) (c : Cond)
    (hsrc : Src a c k.1 prev ctxsIn) : Sp a c0 c (addTaskState E k ctxsIn prev) fun i c' =>
      Grown c c' ∧ c'.st.sequence[i]? = some (newRecord E c k ctxsIn prev).1 ∧ c'.st.taskIdx? k = some i := by
  unfold addTaskState
  refine Sp.bind_get ?_
  split
  · exact Sp.throw
  refine Sp.bind (Q := fun _ c1 => Run (fun _ => Write.fails) c c1) ?_ fun _ c1 h1 => ?_
  · split
    · exact Sp.pure (.refl _)
    · exact Sp.of_writes (by writes_walk [failOnError_writes]) fun _ _ h => quiet_guard (Write.fails_quiet h)
  have hg1 : Grown c c1 := ⟨h1.fails_staged, h1.rel (P := extPre) fun c w _ => Write.ext c w⟩
  refine Sp.bind_get ?_
  refine Sp.bind_write (.appendRec (newRecord E c k ctxsIn prev).1 k) rfl
    ⟨newRecord_id E c k _ _, newRecord_next E c k _ _, newRecord_retryOk E c k _ _,
      ctxsIn, newRecord_prev E c k _ _ ▸ hsrc.mono hg1.staged hg1.ext, newRecord_ctxsIn E c k _ _⟩ fun _ => ?_
  refine Sp.pure ⟨⟨(WState.setTask_staged ..).trans hg1.staged, hg1.ext.trans (Write.ext ..)⟩, ?_, WState.taskIdx?_setTask ..⟩
  show (WState.setTask _ _ _).sequence[_]? = _
  rw [WState.setTask_sequence]
  exact List.getElem?_concat_length

/-- What a call of `update_task_state` must be entered with: the retry event comes for an engine
    command, or for a task whose current record has its licence. -/
def Licence (a : Assume) (k : TaskKey) (ev : Event) (c : Cond) : Prop :=
  ev = .engine .retry_ → isCmdName k.1 = false → ∀ i, c.st.taskIdx? k = some i →
    (a.lic → CanBump c i) ∧ (a.full → Undecided c i)

theorem Pre13.licence {k : TaskKey} {ev : Event} {c : Cond} (h : Pre13 k ev c) : Licence .licence k ev c := by
  refine fun hev hcmd i hi => ⟨fun _ => ?_, False.elim⟩
  obtain h | ⟨i0, hi0, hcan⟩ := h hev
  · rw [hcmd] at h; cases h
  · rw [hi] at hi0
    cases hi0
    exact hcan

/-- the record an event is applied to: it is the one the task-key map gives for the task, and the
    task machine may be applied to it (the retry event has its licence there) -/
def Ensured (a : Assume) (c0 : Cond) (k : TaskKey) (ev : Event) (idx : Nat) (c : Cond) : Prop :=
  c.st.taskIdx? k = some idx ∧ (a.tk → IdAt c idx k.1) ∧ Guard a c0 c (.tkEv idx ev)

theorem Ensured.fresh {k : TaskKey} {ev : Event} {idx : Nat} {c : Cond} {r : Rec} (ht : c.st.taskIdx? k = some idx)
    (hr : c.st.sequence[idx]? = some r) (hs : r.status = none) (hid : r.id = k.1) : Ensured a c0 k ev idx c := by
  refine ⟨ht, fun _ q hq => ?_, fun _ q hq hst => ?_⟩ <;> rw [hr] at hq <;> cases hq
  · exact hid
  · rw [hs] at hst
    obtain hst | hst := hst <;> cases hst

theorem recordFromStaged_sp (k : TaskKey) (s0 : Option Staged) (c : Cond)
    (hs : ∀ sx, s0 = some sx → (sx.id, sx.route) = k ∧ Src a c k.1 sx.prev sx.ctxsIn) :
    Sp a c0 c (recordFromStaged E k s0) fun i c' => Grown c c' ∧ c'.st.taskIdx? k = some i ∧
      ∃ r, c'.st.sequence[i]? = some r ∧ r.status = none ∧ r.id = k.1 := by
  unfold recordFromStaged
  split
  · rename_i sx
    obtain ⟨hk, hsrc⟩ := hs sx rfl
    have hk' : ((k.1, sx.route) : TaskKey) = k := by rw [← hk]
    exact (addTaskState_sp E (k.1, sx.route) _ _ c hsrc).mono fun i c' ⟨hg, hr, ht⟩ =>
      ⟨hg, hk' ▸ ht, _, hr, newRecord_status .., newRecord_id ..⟩
  · exact Sp.throw

theorem ensureRecord_sp (k : TaskKey) (ev : Event) (c : Cond) (hl : Licence a k ev c) :
    Sp a c0 c (ensureRecord E k (c.st.getStaged? k) (c.st.taskIdx? k) ev) fun idx c1 => Ensured a c0 k ev idx c1 := by
  have hs : ∀ sx, c.st.getStaged? k = some sx → (sx.id, sx.route) = k ∧ Src a c k.1 sx.prev sx.ctxsIn := fun sx h =>
    have ⟨hm, hid, hrt⟩ := WState.getStaged?_some h
    ⟨Prod.ext hid hrt, .inl ⟨sx, hm, hid, rfl, rfl⟩⟩
  refine Sp.carried fun hcar => ?_
  unfold ensureRecord
  refine Sp.bind (Q := fun idx c1 => Grown c c1 ∧ Ensured a c0 k ev idx c1) ?_ fun idx c1 ⟨hg, h1⟩ => ?_
  · unfold firstRecord
    split
    · rename_i i hi hcmd
      refine Sp.pure ⟨⟨rfl, .refl _⟩, hi, fun ht => (hcar.tk ht).idAt hi, fun hev r hr _ => ?_⟩
      obtain ⟨hcan, hund⟩ := hl hev hcmd i hi
      exact ⟨fun hl => hcan hl r hr, fun hf => hund hf r hr⟩
    · exact (recordFromStaged_sp E k _ c hs).mono fun _ _ ⟨hg, ht, _, hr, hst, hid⟩ => ⟨hg, .fresh ht hr hst hid⟩
  refine Sp.bind_get (Sp.bind_liftOpt fun r hr => ?_)
  split
  · exact (recordFromStaged_sp E k _ c1 fun sx h => ⟨(hs sx h).1, (hs sx h).2.mono hg.staged hg.ext⟩).mono
      fun _ _ ⟨_, ht, _, hr, hst, hid⟩ => .fresh ht hr hst hid
  · exact Sp.pure h1

/-- record `idx` keeps everything but its retry state, and the task-key map stays -/
structure Restaged (idx : Nat) (c c' : Cond) : Prop where
  record : ∀ r, c.st.sequence[idx]? = some r → ∃ r', c'.st.sequence[idx]? = some r' ∧ r'.core = r.core ∧
    r'.status = r.status ∧ r'.next = r.next
  tasks : c'.st.tasks = c.st.tasks

theorem restageRetry_sp (k : TaskKey) (idx : Nat) (old : Status) (c : Cond) (hid : a.tk → IdAt c idx k.1)
    (hlic : a.lic → ∀ r, c.st.sequence[idx]? = some r → r.status = some .retrying → old ≠ .retrying → CanBumpRec r) :
    Sp a c0 c (restageRetry k idx old) fun _ c' => Restaged idx c c' := by
  unfold restageRetry
  refine Sp.bind_get (Sp.bind_liftOpt fun r hr => ?_)
  split
  · rename_i hcond
    refine Sp.bind_liftOpt fun rs hrs => ?_
    have hr1 := Write.getElem_record idx (.retry { rs with tally := rs.tally + 1 }) hr
    refine Sp.of_run rfl (.step (.record idx (.retry { rs with tally := rs.tally + 1 })) ⟨r, rs, hr, hrs, rfl, fun hl => ?_⟩
      (.step (.staged (.remove k)) trivial (Run.single (.staged (.add _))
        (.inr ⟨_, ⟨idx, { r with retry := some { rs with tally := rs.tally + 1 } }, ?_, rfl, rfl, fun ht => hid ht r hr⟩, rfl⟩))))
      fun _ => ⟨fun r0 hr0 => ?_, ?_⟩
    · simp only [Bool.and_eq_true] at hcond
      refine hlic hl r hr ?_ fun he => by rw [he] at hcond; exact absurd hcond.2 (by decide)
      cases hs : r.status with
      | none => rw [hs] at hcond; exact absurd hcond.1 (by decide)
      | some s => rw [hs] at hcond; exact congrArg some (eq_of_beq hcond.1)
    · show (WState.removeStaged _ k).sequence[idx]? = _
      rw [WState.removeStaged_sequence]
      exact hr1
    · rw [hr] at hr0
      cases hr0
      refine ⟨{ r with retry := some { rs with tally := rs.tally + 1 } }, ?_, rfl, rfl, rfl⟩
      show (WState.addStaged (WState.removeStaged _ k) _).sequence[idx]? = _
      rw [WState.addStaged_sequence, WState.removeStaged_sequence]
      exact hr1
    · show (WState.addStaged (WState.removeStaged _ k) _).tasks = _
      rw [WState.addStaged_tasks, WState.removeStaged_tasks]
      rfl
  · exact Sp.pure ⟨fun r hr => ⟨r, hr, rfl, rfl, rfl⟩, rfl⟩

theorem machineStep_sp (k : TaskKey) (idx : Nat) (ev : Event) (c : Cond) (hid : a.tk → IdAt c idx k.1)
    (hlic : Guard a c0 c (.tkEv idx ev)) :
    Sp a c0 c (machineStep k idx ev) fun p c' => ∃ r r', c.st.sequence[idx]? = some r ∧ c'.st.sequence[idx]? = some r' ∧
      r'.core = r.core ∧ r'.next = r.next ∧ r.status.getD .unset = p.1 ∧ r'.status.getD .unset = p.2 ∧
      (a.full → r.next ≠ [] → r'.status = r.status) ∧ c'.st.tasks = c.st.tasks := by
  refine Sp.carried fun hcar => ?_
  unfold machineStep
  refine Sp.bind_get (Sp.bind_liftOpt fun r hr => ?_)
  refine Sp.bind_write (.tkEv idx ev) rfl hlic fun _ => ?_
  obtain ⟨r3, hr3, e1, e2, e3, hent⟩ := tkEv_record idx ev c hr
  refine Sp.bind_get (Sp.bind_liftOpt fun r3' hr3' => ?_)
  rw [hr3] at hr3'
  cases hr3'
  refine Sp.bind (restageRetry_sp k idx _ _ (fun ht q hq => by rw [hr3] at hq; cases hq; exact (Rec.core_id e1).trans (hid ht r hr))
    fun hl q hq hs hold => ?_) fun _ c5 h5 => Sp.pure ?_
  · rw [hr3] at hq
    cases hq
    obtain ⟨hev, hst⟩ := hent hs hold
    exact CanBumpRec.of_retry e3 ((hlic hev r hr hst).1 hl)
  · obtain ⟨r5, hr5, f1, f2, f3⟩ := h5.record r3 hr3
    refine ⟨r, r5, hr, hr5, f1.trans e1, f3.trans e2, rfl, by rw [f2], fun hf hn => ?_,
      h5.tasks.trans (Write.tasks_eq _ c fun _ _ => Write.noConfusion)⟩
    -- a decided record is completed (`Dec`), and frozen
    obtain ⟨q, hq, hs⟩ := (Guard.decStepW (a := a) (c0 := c0) (w := .tkEv idx ev) hlic hf).old idx r hr
    rw [hr3] at hq
    cases hq
    rw [f2]
    exact hs.status ((hcar.inv hf).dec idx r hr hn) hn

/-- what `updateHead` returns with: record `h.idx` is the one the task-key map gives for `k`, carries the
    new status, belongs to the task, and holds no decision if its status has just changed -/
def HeadOk (a : Assume) (k : TaskKey) (h : Stepped) (c : Cond) : Prop :=
  ∃ r, c.st.sequence[h.idx]? = some r ∧ r.status.getD .unset = h.newStatus ∧ (a.tk → r.id = k.1) ∧
    (a.full → h.newStatus ≠ h.oldStatus → r.next = []) ∧ c.st.taskIdx? k = some h.idx

theorem Run.notes_eq {c c' : Cond} (h : Run (fun _ => Write.notes) c c') :
    c'.st.sequence = c.st.sequence ∧ c'.st.tasks = c.st.tasks :=
  h.rel (P := ⟨fun c c' => c'.st.sequence = c.st.sequence ∧ c'.st.tasks = c.st.tasks, fun _ => ⟨rfl, rfl⟩,
    fun h1 h2 => ⟨h2.1.trans h1.1, h2.2.trans h1.2⟩⟩) fun c w hw => by
    refine ⟨?_, Write.tasks_eq w c (by rintro r k rfl; exact hw)⟩
    obtain e | ⟨i, g, hm, _⟩ | ⟨r, k, rfl, _⟩ := w.sequence_apply c
    · exact e
    · cases hm <;> cases hw
    · cases hw

theorem updateHead_sp (k : TaskKey) (ev : Event) (c : Cond) (hl : Licence a k ev c) :
    Sp a c0 c (updateHead E k ev) fun h c' => HeadOk a k h c' := by
  unfold updateHead
  refine Sp.bind_get ?_
  split
  · exact Sp.throw
  dsimp only
  refine Sp.bind_liftOpt fun ts _ => ?_
  split
  · exact Sp.throw
  refine Sp.bind (ensureRecord_sp E k ev c hl) fun idx c1 ⟨hidx, hid1, hlic1⟩ => ?_
  refine Sp.bind (Sp.of_writes (noteEvent_writes ..) fun _ _ h => quiet_guard (Write.notes_quiet h)) fun _ c2 hn => ?_
  obtain ⟨hs2, ht2⟩ := hn.notes_eq
  refine Sp.bind (machineStep_sp k idx ev c2 (fun ht r hr => hid1 ht r (hs2 ▸ hr)) fun hev r hr => hlic1 hev r (hs2 ▸ hr))
    fun p c3 ⟨r, r', hr, hr', e1, en, eo, e2, efr, e4⟩ => ?_
  obtain ⟨p1, p2⟩ := p
  refine Sp.pure ⟨r', hr', e2, fun ht => (Rec.core_id e1).trans (hid1 ht r (hs2 ▸ hr)), fun hf hne => ?_,
    (WState.taskIdx?_congr (e4.trans ht2) k).trans hidx⟩
  -- had the record been decided, it would have kept its status
  rw [en]
  exact Decidable.byContradiction fun hn => hne (by rw [← eo, ← e2, efr hf hn])

theorem updateRest_sp (recur : TaskKey → Event → M Unit)
    (hrec : ∀ nk cmd c', Cmd.ofStr? nk.1 = some cmd → Sp a c0 c' (recur nk (.engine cmd)) fun _ _ => True)
    (k : TaskKey) (ev : Event) (h : Stepped) (c : Cond)
    (hok : h.newStatus.isCompleted = true → ∃ r, c.st.sequence[h.idx]? = some r ∧ Comp r ∧ (a.tk → r.id = k.1) ∧
      (a.full → h.newStatus ≠ h.oldStatus → r.next = [])) :
    Sp a c0 c (updateRest E recur k ev h) fun _ _ => True := by
  unfold updateRest
  refine Sp.bind (Q := fun _ _ => True) ?_ fun acc c1 _ => ?_
  · refine Sp.carried fun hcar => ?_
    split
    · rename_i hcond
      simp only [Bool.and_eq_true] at hcond
      have hne : h.newStatus ≠ h.oldStatus := bne_iff_ne.mp hcond.2
      obtain ⟨r, hr, hc, hid, hun⟩ := hok hcond.1
      refine evalTransitions_sp E k h.idx h.ts ev c ⟨r, hr, hc, hid, fun hf => ⟨hun hf hne, fun r0 hr0 => ?_⟩⟩
      -- a record that was decided when the call began has kept its decisions
      by_cases hn : r0.next = []
      · exact hn
      · obtain ⟨r', hr', e⟩ := (hcar.main hf).keep h.idx r0 hr0 hn
        rw [hr] at hr'
        cases hr'
        exact absurd (e ▸ hun hf hne) hn
    · exact Sp.pure trivial
  refine Sp.bind_get (Sp.bind_liftOpt fun r _ => Sp.bind_liftOpt fun st _ => ?_)
  refine Sp.bind_write (.wfTask k st) rfl trivial fun _ => ?_
  refine Sp.bind (Sp.forEach _ fun nk c' => ?_) fun _ _ _ =>
    (Sp.of_writes (markTermIfCompleted_writes _) fun _ _ => quiet_guard).mono fun _ _ _ => trivial
  split
  · exact hrec nk _ c' ‹_›
  · exact Sp.pure trivial

theorem updateTail_sp (recur : TaskKey → Event → M Unit)
    (hrec : ∀ k' ev' c', Licence a k' ev' c' → Sp a c0 c' (recur k' ev') fun _ _ => True)
    (k : TaskKey) (ev : Event) (h : Stepped) (c : Cond) (hok : HeadOk a k h c) :
    Sp a c0 c (updateTail E recur k ev h) fun _ _ => True := by
  obtain ⟨r, hr, hst, hid, hun, hidx⟩ := hok
  unfold updateTail
  refine Sp.bind (Q := fun b c5 => Calm c c5 ∧ (b = true → CanBump c5 h.idx ∧ h.newStatus ≠ h.oldStatus)) ?_
    fun retry c5 ⟨hk5, hb⟩ => ?_
  · split
    · refine (Sp.of_writes (completedRetryDecision_writes E ..) fun _ _ => quiet_guard).with_eq.mono
        fun b c5 ⟨hq, h5⟩ => ⟨hq.calm, fun hb => ?_⟩
      subst hb
      exact completedRetryDecision_yes E _ _ _ _ _ _ _ _ h5
    · exact Sp.pure ⟨calmPre.refl c, fun hb => by cases hb⟩
  obtain ⟨r5, hr5, e1, e2, e4⟩ := hk5.recs h.idx r hr
  split
  · rename_i hb'
    obtain ⟨hcan, hne⟩ := hb hb'
    refine hrec k _ c5 fun _ hcmd i hi => ?_
    have hi' : c5.st.taskIdx? k = some h.idx := (WState.taskIdx?_congr hk5.tasks k).trans hidx
    rw [hi] at hi'
    cases hi'
    refine ⟨fun _ => hcan, fun hf q hq => ?_⟩
    rw [hr5] at hq
    cases hq
    rw [e2]
    exact hun hf hne
  · refine updateRest_sp E recur (fun nk cmd c' hcmd => hrec nk _ c' fun _ hn => ?_) k ev h c5 fun hcomp => ?_
    · unfold isCmdName at hn
      rw [hcmd] at hn
      cases hn
    · have hc := Comp.of_getD hst hcomp
      exact ⟨r5, hr5, hc.of_status (e4 hc), fun ht => (Rec.core_id e1).trans (hid ht), fun hf hne => by rw [e2]; exact hun hf hne⟩

theorem updateTaskStateAux_sp (fuel : Nat) : ∀ (k : TaskKey) (ev : Event) (c : Cond), Licence a k ev c →
    Sp a c0 c (updateTaskStateAux E fuel k ev) fun _ _ => True := by
  induction fuel with
  | zero => exact fun _ _ _ _ => Sp.throw
  | succ n ih =>
    intro k ev c hl
    unfold updateTaskStateAux
    exact Sp.bind (updateHead_sp E k ev c hl) fun h c4 hok => updateTail_sp E _ ih k ev h c4 hok

theorem requestTaskRerun_sp (k : TaskKey) (reset : Bool) (c : Cond) : Sp a c0 c (requestTaskRerun E k reset) fun _ _ => True := by
  refine Sp.carried fun hcar => ?_
  unfold requestTaskRerun
  refine Sp.bind_get (Sp.bind_liftOpt fun idx hidx => Sp.bind_liftOpt fun task htask => Sp.bind_liftOpt fun ts _ => ?_)
  have hid : a.tk → task.id = k.1 := fun ht => (hcar.tk ht).idAt hidx task htask
  refine Sp.bind_run rfl (.step (.record idx (.term false)) trivial (Run.single (.staged (.completed k false)) trivial)) fun _ => ?_
  refine Sp.bind_write (.dropErrors k.1) rfl trivial fun _ => ?_
  have hr2 : ((Write.dropErrors k.1).apply ((Write.staged (.completed k false)).apply
      ((Write.record idx (.term false)).apply c))).st.sequence[idx]? = some { task with term := false } :=
    Write.getElem_record idx (.term false) htask
  refine Sp.bind (Q := fun _ _ => True) ?_ fun _ c3 _ => ?_
  · split
    · refine Sp.bind_get ?_
      split
      · exact Sp.throw
      · exact Sp.write (.staged (.items k _)) rfl trivial fun _ => trivial
    · refine Sp.bind (addTaskState_sp E k task.ctxsIn task.prev _ (.inr ⟨idx, _, hr2, rfl, rfl, hid⟩)) fun _ ca hg => ?_
      obtain ⟨q, hq, hcore⟩ := hg.1.ext.getElem_core hr2
      exact Sp.write (.staged (.add _)) rfl (.inr ⟨_, ⟨idx, q, hq, Rec.core_prev hcore, Rec.core_ctxsIn hcore,
        fun ht => (Rec.core_id hcore).trans (hid ht)⟩, rfl⟩) fun _ => trivial
  refine Sp.bind_get (Sp.bind_liftExcept fun seq _ => ?_)
  exact Sp.forEach seq fun i c' => Sp.write (.record i (.term false)) rfl trivial fun _ => trivial

theorem requestRerun_sp (reqs : List RerunReq) (c : Cond) : Sp a c0 c (requestRerun E reqs) fun _ _ => True := by
  unfold requestRerun
  refine Sp.bind_get ?_
  split
  · exact Sp.throw
  dsimp only
  split
  · exact Sp.throw
  refine Sp.bind_rel (fun P => by writes_walk []) fun cands => ?_
  refine Sp.bind_write (.rerun _) rfl trivial fun _ => ?_
  refine Sp.bind (Sp.forEach _ fun p c' => requestTaskRerun_sp E p.1 _ c') fun _ c2 _ => Sp.bind_get ?_
  refine Sp.bind (Sp.forEach _ fun p c' => Sp.write (.record p.2 (.term false)) rfl trivial fun _ => trivial) fun _ _ _ => ?_
  exact Sp.bind_write (.output none) rfl trivial fun _ => Sp.write (.status .resuming) rfl trivial fun _ => trivial

/-- Every API call is a run of guarded writes.  The ghost of the guard is the state the call itself starts
    in, so a relation to the state a whole history starts in is composed call by call (`runOps_frozen`). -/
theorem runOp_guarded (op : Op) (c : Cond) (htk : a.tk → TK c) (hinv : a.full → Inv0 c)
    (hop : a.lic ∨ a.full → op.notRetryEvent) : Run (Guard a c) c (runOp E op c) := by
  have hcar : Carried a c c := ⟨htk, hinv, fun _ => NK.refl c⟩
  cases op with
  | req s => exact ((requestStatus_writes s).run c).mono fun _ _ => isReq_guard
  | next => exact ((getNextTasks_writes E).run c).mono fun _ _ => query_guard
  | render => exact ((renderOutput_writes E).run c).mono fun _ _ => render_guard
  | rerun reqs => exact (requestRerun_sp E reqs c).run hcar
  | report k ev =>
    refine (updateTaskStateAux_sp E 3 k ev c fun hev _ _ _ => ⟨fun hl => ?_, fun hf => ?_⟩).run hcar
    · exact (hev ▸ hop (.inl hl) : (Op.report k (.engine .retry_)).notRetryEvent).elim
    · exact (hev ▸ hop (.inr hf) : (Op.report k (.engine .retry_)).notRetryEvent).elim

theorem init_guarded (spec : WfSpec) (parentCtx inputs : Val.Dict) :
    Run (Guard a c0) (Cond.blank spec parentCtx inputs) (init E spec parentCtx inputs) :=
  (init_run E spec parentCtx inputs).mono fun _ _ => inits_guard

theorem Inv0.blank (spec : WfSpec) (parentCtx inputs : Val.Dict) : Inv0 (Cond.blank spec parentCtx inputs) where
  dec _ _ h := by cases h
  tk _ h := by cases h
  gk := C14_keys_distinct spec
  jt := ⟨fun _ h => (by cases h), fun _ h => (by cases h)⟩
  logged _ h := by cases h

/-- An invariant `I` that every guarded write keeps is kept by every history of API calls.  What the
    write may rely on (a sound task-key map, the invariants `Inv0`) is kept alongside. -/
theorem runOps_keeps {I : Cond → Prop} (hI : ∀ c0 c w, Guard a c0 c w → (a.tk → TK c) → (a.full → Inv0 c) → I c → I (w.apply c))
    (ops : List Op) (hops : a.lic ∨ a.full → ∀ op ∈ ops, op.notRetryEvent) (c : Cond) (h : Kept a I c) :
    Kept a I (runOps E ops c) := by
  induction ops generalizing c with
  | nil => exact h
  | cons op ops ih =>
    exact ih (fun hl o ho => hops hl o (List.mem_cons_of_mem _ ho)) _
      ((runOp_guarded E op c h.tk h.inv fun hl => hops hl op List.mem_cons_self).kept (hI c) h)

/-- An invariant that holds before the initialisation and that every guarded write keeps holds at
    every point of every history.  `a` says what the writes may rely on; relying on a licensed retry
    event restricts the histories to those of a provider. -/
theorem history_keeps (a : Assume) {I : Cond → Prop}
    (hI : ∀ c0 c w, Guard a c0 c w → (a.tk → TK c) → (a.full → Inv0 c) → I c → I (w.apply c))
    (spec : WfSpec) (parentCtx inputs : Val.Dict) (h0 : I (Cond.blank spec parentCtx inputs))
    (ops : List Op) (hops : a.lic ∨ a.full → ∀ op ∈ ops, op.notRetryEvent) :
    Kept a I (runOps E ops (init E spec parentCtx inputs)) :=
  runOps_keeps E hI ops hops _ ((init_guarded (c0 := Cond.blank spec parentCtx inputs) E spec parentCtx inputs).kept (hI _)
    ⟨fun _ => (Inv0.blank ..).tk, fun _ => Inv0.blank .., h0⟩)

/-- the invariants the guard relies on hold along the histories of a provider -/
theorem runOps_inv0 (spec : WfSpec) (parentCtx inputs : Val.Dict) (ops : List Op) (hops : ∀ op ∈ ops, op.notRetryEvent) :
    Inv0 (runOps E ops (init E spec parentCtx inputs)) :=
  (history_keeps E .all (I := fun _ => True) (fun _ _ _ _ _ _ _ => trivial) spec parentCtx inputs trivial ops fun _ => hops).inv
    trivial

end Orq
