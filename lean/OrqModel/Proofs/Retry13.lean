/-
C13: the retry tally of every task record stays within the policy's count.  The invariant, the
licence of the engine's retry event (attempts remain), and what the decision phase establishes.
-/
import OrqModel.Proofs.Monad
import OrqModel.Properties.Items

namespace Orq

variable (E : Evaluator)

/-- `max n 0`: the tally starts at 0 (`setupRetry_tally`) and a count below 1 allows no retry.  Only an
    evaluated integer count bounds anything: on any other `evaluateTaskRetry` raises, and nothing is retried. -/
def RetryOk (r : Rec) : Prop :=
  ∀ rs n, r.retry = some rs → rs.count = .val (.int n) → (rs.tally : Int) ≤ max n 0

def Inv13 (c : Cond) : Prop := ∀ r ∈ c.st.sequence, RetryOk r

theorem setupRetry_tally (g : GRetry) (ctx : Except Err Val.Dict) : (setupRetry E g ctx).1.tally = 0 := by
  unfold setupRetry
  dsimp only
  repeat' (first | split | rfl)

theorem newRecord_retryOk (c : Cond) (k : TaskKey) (a : List Nat) (b : List (TransId × Nat)) :
    RetryOk (newRecord E c k a b).1 := by
  unfold newRecord
  dsimp only
  split
  · intro rs n h; cases h
  · intro rs n h1 _
    simp only [Option.some.injEq] at h1
    subst h1
    rw [setupRetry_tally]
    exact Int.le_max_right n 0

/-- attempts remain on this record -/
def CanBumpRec (r : Rec) : Prop :=
  ∀ rs n, r.retry = some rs → rs.count = .val (.int n) → (rs.tally : Int) < n

def CanBump (c : Cond) (i : Nat) : Prop := ∀ r, c.st.sequence[i]? = some r → CanBumpRec r

theorem CanBumpRec.of_retry {r r' : Rec} (h : r'.retry = r.retry) (hc : CanBumpRec r) : CanBumpRec r' := by
  intro rs n h1 h2
  exact hc rs n (h ▸ h1) h2

/-- what must hold when `update_task_state` is entered with event `ev` for task `k`: the engine's
    retry event comes with a record on which attempts remain -/
def Pre13 (k : TaskKey) (ev : Event) (c : Cond) : Prop :=
  ev = .engine .retry_ → (isCmdName k.1 = true ∨ ∃ i, c.st.taskIdx? k = some i ∧ CanBump c i)

/-- the decision phase answers `true` only when the event changed the record's status and
    `_evaluate_task_retry` said yes: attempts remain on the record -/
theorem completedRetryDecision_yes (k : TaskKey) (idx : Nat) (ts : TaskSpec) (os ns : Status) (ev : Event)
    (c c' : Cond) (h : completedRetryDecision E k idx ts os ns ev c = (.ok true, c')) :
    CanBump c' idx ∧ ns ≠ os := by
  unfold completedRetryDecision at h
  obtain ⟨u, c1, _, h1⟩ := M.bind_ok h
  obtain ⟨ec, c2, _, h2⟩ := M.bind_ok h1
  rw [M.get_bind] at h2
  obtain ⟨r, c4, hl, h4⟩ := M.bind_ok h2
  obtain ⟨hr, e3⟩ := liftOpt_ok hl
  subst e3
  dsimp only at h4
  generalize hdec : (if (ns != os && c2.st.status.isActive) = true then evaluateTaskRetry E r ec else Except.ok false : Except Err Bool) = dec at h4
  cases dec with
  | ok b =>
    obtain ⟨e4, e5⟩ := pure_ok h4
    subst e4 e5
    split at hdec
    · rename_i hcond
      refine ⟨?_, ?_⟩
      · obtain ⟨rs, n, hrs, hcount, hlt⟩ := C13_retry_requires_tally_below_count E r ec hdec
        intro r' hr' rs' n' h1' h2'
        rw [hr] at hr'
        cases hr'
        rw [hrs] at h1'
        cases h1'
        rw [hcount] at h2'
        cases h2'
        exact hlt
      · simp only [Bool.and_eq_true] at hcond
        exact bne_iff_ne.mp hcond.1
    · cases hdec
  | error e =>
    obtain ⟨_, c5, _, h5⟩ := M.bind_ok h4
    obtain ⟨_, c6, _, h6⟩ := M.bind_ok h5
    obtain ⟨e6, _⟩ := pure_ok h6
    cases e6
end Orq
