/-
A small relational program logic for the model's state/exception monad `M`.

`Rel R m` says: running `m` from any state `s` ends (normally or with an exception) in a state
`s'` with `R s s'`.  For a reflexive, transitive `R` the rules below are syntax-directed, so a
tactic script can walk a model function along its text (`writes_walk` in `Footprint.lean`).
-/
import OrqModel.Model.Conductor

namespace Orq

structure Pre where
  R : Cond → Cond → Prop
  refl : ∀ s, R s s
  trans : ∀ {a b c}, R a b → R b c → R a c

structure Rel (P : Pre) {α} (m : M α) : Prop where
  run : ∀ s, P.R s (m s).2

namespace Rel

variable {P : Pre}

theorem pure {α} (a : α) : Rel P (Pure.pure a : M α) := ⟨fun s => P.refl s⟩

theorem pure' {α} (a : α) : Rel P (M.pure' a : M α) := ⟨fun s => P.refl s⟩

theorem bind {α β} {m : M α} {f : α → M β} (hm : Rel P m) (hf : ∀ a, Rel P (f a)) :
    Rel P (m >>= f) := by
  constructor
  intro s
  show P.R s (M.bind' m f s).2
  unfold M.bind'
  have h1 := hm.run s
  cases h : m s with
  | mk r s' =>
    rw [h] at h1
    cases r with
    | ok a => exact P.trans h1 ((hf a).run s')
    | error e => exact h1

theorem bind' {α β} {m : M α} {f : α → M β} (hm : Rel P m) (hf : ∀ a, Rel P (f a)) :
    Rel P (M.bind' m f) := bind hm hf

theorem throw {α} (e : Err) : Rel P (M.throw e : M α) := ⟨fun s => P.refl s⟩

theorem get : Rel P M.get := ⟨fun s => P.refl s⟩

theorem modify {f : Cond → Cond} (h : ∀ s, P.R s (f s)) : Rel P (M.modify f) := ⟨fun s => h s⟩

theorem modifySt {f : WState → WState} (h : ∀ s : Cond, P.R s { s with st := f s.st }) :
    Rel P (M.modifySt f) := ⟨fun s => h s⟩

theorem liftExcept {α} (x : Except Err α) : Rel P (M.liftExcept x) := by
  cases x <;> constructor <;> intro s <;> exact P.refl s

theorem liftOpt {α} (x : Option α) (e : Err) : Rel P (liftOpt x e) := by
  cases x <;> constructor <;> intro s <;> exact P.refl s

theorem tryCatch {α} {m : M α} {h : Err → M α} (hm : Rel P m) (hh : ∀ e, Rel P (h e)) :
    Rel P (M.tryCatch m h) := by
  constructor
  intro s
  unfold M.tryCatch
  have h1 := hm.run s
  cases hr : m s with
  | mk r s' =>
    rw [hr] at h1
    cases r with
    | ok a => exact h1
    | error e => exact P.trans h1 ((hh e).run s')

theorem forEach {α} (xs : List α) {f : α → M Unit} (hf : ∀ a, Rel P (f a)) :
    Rel P (M.forEach xs f) := by
  induction xs with
  | nil => exact pure ()
  | cons x xs ih =>
    unfold M.forEach
    exact bind' (hf x) (fun _ => ih)

theorem mapM' {α β} (xs : List α) {f : α → M β} (hf : ∀ a, Rel P (f a)) :
    Rel P (M.mapM' xs f) := by
  induction xs with
  | nil => exact pure []
  | cons x xs ih =>
    unfold M.mapM'
    exact bind' (hf x) (fun _ => bind' ih (fun _ => pure _))

theorem foldM' {α β} (xs : List α) (b : β) {f : β → α → M β} (hf : ∀ b a, Rel P (f b a)) :
    Rel P (M.foldM' xs b f) := by
  induction xs generalizing b with
  | nil => exact pure b
  | cons x xs ih =>
    unfold M.foldM'
    exact bind' (hf b x) (fun b' => ih b')

theorem ite {α} {c : Prop} [Decidable c] {a b : M α} (ha : Rel P a) (hb : Rel P b) :
    Rel P (if c then a else b) := by
  split <;> assumption

theorem raw {α} {m : M α} (h : ∀ s, P.R s (m s).2) : Rel P m := ⟨h⟩

end Rel

def Pre.top : Pre := ⟨fun _ _ => True, fun _ => trivial, fun _ _ => trivial⟩

def Pre.eq : Pre := ⟨Eq, fun _ => rfl, Eq.trans⟩

theorem Rel.top {α} (m : M α) : Rel Pre.top m := ⟨fun _ => trivial⟩

/-- an assertion that every iteration keeps, whether it returns or raises, is kept by the loop -/
theorem M.forEach_keeps {α} (I : Cond → Prop) (xs : List α) (f : α → M Unit) (h : ∀ a c, I c → I (f a c).2) :
    ∀ c, I c → I (M.forEach xs f c).2 :=
  fun c hc => (Rel.forEach (P := ⟨fun c c' => I c → I c', fun _ => id, fun h1 h2 h => h2 (h1 h)⟩) xs
    fun a => ⟨h a⟩).run c hc

theorem M.foldM'_keeps {α β} (I : Cond → Prop) (xs : List α) (b : β) (f : β → α → M β) (h : ∀ b a c, I c → I (f b a c).2) :
    ∀ c, I c → I (M.foldM' xs b f c).2 :=
  fun c hc => (Rel.foldM' (P := ⟨fun c c' => I c → I c', fun _ => id, fun h1 h2 h => h2 (h1 h)⟩) xs b
    fun b a => ⟨h b a⟩).run c hc

end Orq
