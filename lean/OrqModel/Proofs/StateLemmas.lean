/-
What the primitive writes and reads of `WState` do, stated once about variables: each write is
rewritten to a standard list operation (`modify`, `eraseP`, `++`, `setAssoc`) on the one field it
touches, so that every other field is untouched by `rfl` (the `@[simp]` family at the end) and the
facts about the touched field come from the list library; the record `add_task_state` builds; and three facts about lists the
model's helpers need (sorted insertion permutes, `eraseFirst`, the `[0]` default).
-/
import OrqModel.Model.Conductor

namespace Orq

theorem map_modify_eq {α β} {f : α → β} {g : α → α} (h : ∀ a, f (g a) = f a) (l : List α) (i : Nat) :
    (l.modify i g).map f = l.map f := by
  induction l generalizing i with
  | nil => simp
  | cons x xs ih => cases i <;> simp [h, ih]

theorem mem_modify {α} {l : List α} {i : Nat} {f : α → α} {x : α} (h : x ∈ l.modify i f) :
    x ∈ l ∨ ∃ y, l[i]? = some y ∧ x = f y := by
  obtain ⟨j, hj⟩ := List.getElem?_of_mem h
  by_cases e : i = j
  · subst e
    rw [List.getElem?_modify_eq] at hj
    cases hy : l[i]? with
    | none => rw [hy] at hj; cases hj
    | some y => rw [hy] at hj; exact Or.inr ⟨y, rfl, (Option.some.inj hj).symm⟩
  · rw [List.getElem?_modify_ne _ _ e] at hj
    exact Or.inl (List.mem_of_getElem? hj)

theorem modify_eq_self {α} {l : List α} {i : Nat} {f : α → α} (h : ∀ x, l[i]? = some x → f x = x) : l.modify i f = l := by
  apply List.ext_getElem?
  intro j
  by_cases e : i = j
  · subst e
    rw [List.getElem?_modify_eq]
    cases hx : l[i]? with
    | none => rfl
    | some x => exact congrArg some (h x hx)
  · rw [List.getElem?_modify_ne _ _ e]

theorem find?_modify_findIdx {α} {p : α → Bool} {f : α → α} (hf : ∀ x, p (f x) = p x) (l : List α) :
    (l.modify (l.findIdx p) f).find? p = (l.find? p).map f := by
  induction l with
  | nil => rfl
  | cons x xs ih =>
    rw [List.findIdx_cons]
    cases hx : p x with
    | true => simp [hf, hx]
    | false => simp [hx, ih]

theorem find?_modify_of_not {α} {q : α → Bool} {f : α → α} {l : List α} {i : Nat}
    (h : ∀ x, l[i]? = some x → q x = false ∧ q (f x) = false) : (l.modify i f).find? q = l.find? q := by
  induction l generalizing i with
  | nil => simp
  | cons x xs ih =>
    cases i with
    | zero => simp [h x rfl]
    | succ n =>
      rw [List.modify_succ_cons, List.find?_cons, List.find?_cons, ih fun y hy => h y hy]

/-- every sorted insertion of the model (`insEdge`, `insOffer`, …) folded over a list permutes it -/
theorem foldl_insert_perm {α} {ins : α → List α → List α} (h : ∀ x l, (ins x l).Perm (x :: l)) (l acc : List α) :
    (l.foldl (fun acc x => ins x acc) acc).Perm (l ++ acc) := by
  induction l generalizing acc with
  | nil => exact List.Perm.refl _
  | cons x xs ih =>
    exact (ih _).trans ((List.Perm.append_left xs (h x acc)).trans List.perm_middle)

theorem eraseFirst_eq_some {xs : List Nat} {x : Nat} {rest : List Nat} :
    eraseFirst xs x = some rest ↔ x ∈ xs ∧ rest = xs.erase x := by
  unfold eraseFirst
  split
  · next h => exact ⟨fun e => ⟨List.contains_iff_mem.mp h, (Option.some.inj e).symm⟩, fun e => congrArg some e.2.symm⟩
  · next h => exact ⟨nofun, fun e => absurd (List.contains_iff_mem.mpr e.1) h⟩

theorem mem_eraseFirst {xs : List Nat} {x : Nat} {rest : List Nat} (h : eraseFirst xs x = some rest) {i : Nat} :
    i ∈ xs ↔ i = x ∨ i ∈ rest := by
  obtain ⟨hx, rfl⟩ := eraseFirst_eq_some.mp h
  by_cases e : i = x
  · simp only [e, hx, true_or]
  · simp only [e, List.mem_erase_of_ne e, false_or]

theorem mem_orZero {l : List Nat} {i : Nat} (h : i ∈ l) : i ∈ (if l.isEmpty then [0] else l) := by
  cases l with
  | nil => cases h
  | cons _ _ => exact h

section setAssoc
variable {κ β} [BEq κ] [LawfulBEq κ] {l : List (κ × β)} {k : κ} {v : β}

theorem mem_setAssoc_iff {p : κ × β} : p ∈ setAssoc l k v ↔ (p ∈ l ∧ p.1 ≠ k) ∨ p = (k, v) := by
  unfold setAssoc
  split
  · next hany =>
    simp only [List.mem_map]
    constructor
    · rintro ⟨q, hq, rfl⟩
      split
      · next hk => exact Or.inr (by rw [eq_of_beq hk])
      · next hk => exact Or.inl ⟨hq, fun e => hk (by rw [e]; exact BEq.rfl)⟩
    · rintro (⟨hp, hk⟩ | rfl)
      · exact ⟨p, hp, if_neg fun e => hk (eq_of_beq e)⟩
      · obtain ⟨q, hq, hk⟩ := List.any_eq_true.mp hany
        exact ⟨q, hq, by rw [if_pos hk, eq_of_beq hk]⟩
  · next hany =>
    simp only [List.mem_append, List.mem_singleton]
    constructor
    · rintro (hp | rfl)
      · exact Or.inl ⟨hp, fun e => hany (List.any_eq_true.mpr ⟨p, hp, by rw [e]; exact BEq.rfl⟩)⟩
      · exact Or.inr rfl
    · rintro (⟨hp, _⟩ | rfl)
      · exact Or.inl hp
      · exact Or.inr rfl

theorem mem_setAssoc_self : (k, v) ∈ setAssoc l k v := mem_setAssoc_iff.mpr (Or.inr rfl)

theorem setAssoc_ne_nil : setAssoc l k v ≠ [] := List.ne_nil_of_mem mem_setAssoc_self

theorem setAssoc_fresh (h : ∀ m ∈ l, m.1 ≠ k) : setAssoc l k v = l ++ [(k, v)] := by
  unfold setAssoc
  rw [if_neg]
  intro hany
  obtain ⟨m, hm, hk⟩ := List.any_eq_true.mp hany
  exact h m hm (eq_of_beq hk)

theorem find?_setAssoc_self : (setAssoc l k v).find? (fun p => p.1 == k) = some (k, v) := by
  unfold setAssoc
  split
  · next hany =>
    have hkey : ((fun p : κ × β => p.1 == k) ∘ fun p => if p.1 == k then (p.1, v) else p) = fun p => p.1 == k := by
      funext q
      show ((if q.1 == k then (q.1, v) else q).1 == k) = (q.1 == k)
      split <;> rfl
    rw [List.find?_map, hkey]
    obtain ⟨q, hq, hk⟩ := List.any_eq_true.mp hany
    cases hf : l.find? (fun p => p.1 == k) with
    | none => exact absurd hk (List.find?_eq_none.mp hf q hq)
    | some q' =>
      have := List.find?_some hf
      rw [Option.map_some, if_pos this, eq_of_beq this]
  · next hany =>
    rw [List.find?_append, List.find?_eq_none.mpr fun q hq hk => hany (List.any_eq_true.mpr ⟨q, hq, hk⟩)]
    simp only [BEq.rfl, List.find?_cons_of_pos, Option.or_some, Option.getD_none]

end setAssoc

namespace WState

theorem setTask_eq (s : WState) (k : TaskKey) (i : Nat) :
    s.setTask k i = { s with tasks := setAssoc s.tasks k i } := by
  unfold setTask setAssoc
  split <;> rfl

theorem taskIdx?_eq (s : WState) (k : TaskKey) :
    s.taskIdx? k = (s.tasks.find? fun p => p.1 == k).map (·.2) := by
  unfold taskIdx?
  split <;> simp [*]

theorem taskIdx?_congr {s s' : WState} (h : s'.tasks = s.tasks) (k : TaskKey) : s'.taskIdx? k = s.taskIdx? k := by
  rw [taskIdx?_eq, taskIdx?_eq, h]

theorem mem_of_taskIdx? {s : WState} {k : TaskKey} {i : Nat} (h : s.taskIdx? k = some i) : (k, i) ∈ s.tasks := by
  rw [taskIdx?_eq, Option.map_eq_some_iff] at h
  obtain ⟨p, hp, rfl⟩ := h
  have hk := List.find?_some hp
  have hm := List.mem_of_find?_eq_some hp
  rwa [← eq_of_beq hk]

theorem taskIdx?_setTask (s : WState) (k : TaskKey) (i : Nat) : (s.setTask k i).taskIdx? k = some i := by
  rw [taskIdx?_eq, setTask_eq]
  show ((setAssoc s.tasks k i).find? _).map _ = _
  rw [find?_setAssoc_self]
  rfl

end WState

/-- the entry of task `k.1` on route `k.2` -/
def matchesKey (k : TaskKey) (x : Staged) : Bool := x.id == k.1 && x.route == k.2

theorem matchesKey_iff {k : TaskKey} {x : Staged} : matchesKey k x = true ↔ x.id = k.1 ∧ x.route = k.2 := by
  simp only [matchesKey, Bool.and_eq_true, beq_iff_eq]

namespace WState

theorem updateStaged_go_eq (k : TaskKey) (f : Staged → Staged) (l : List Staged) :
    updateStaged.go k f l = l.modify (l.findIdx (matchesKey k)) f := by
  induction l with
  | nil => rfl
  | cons x xs ih =>
    unfold updateStaged.go
    rw [List.findIdx_cons]
    by_cases h : (x.id == k.1 && x.route == k.2) = true
    · rw [if_pos h, show matchesKey k x = true from h]; rfl
    · rw [if_neg h, show matchesKey k x = false from Bool.eq_false_iff.mpr h, ih]; rfl

theorem eraseStaged_go_eq (k : TaskKey) (l : List Staged) : eraseStaged.go k l = l.eraseP (matchesKey k) := by
  induction l with
  | nil => rfl
  | cons x xs ih =>
    unfold eraseStaged.go
    by_cases h : (x.id == k.1 && x.route == k.2) = true
    · rw [if_pos h, List.eraseP_cons_of_pos (show matchesKey k x = true from h)]
    · rw [if_neg h, List.eraseP_cons_of_neg (show ¬ matchesKey k x = true from h), ih]

theorem getStaged?_eq (s : WState) (k : TaskKey) : s.getStaged? k = s.staged.find? (matchesKey k) := rfl

theorem updateStaged_eq (s : WState) (k : TaskKey) (f : Staged → Staged) :
    s.updateStaged k f = { s with staged := s.staged.modify (s.staged.findIdx (matchesKey k)) f } :=
  congrArg (fun l => ({ s with staged := l } : WState)) (updateStaged_go_eq k f s.staged)

theorem eraseStaged_eq (s : WState) (k : TaskKey) :
    s.eraseStaged k = { s with staged := s.staged.eraseP (matchesKey k) } :=
  congrArg (fun l => ({ s with staged := l } : WState)) (eraseStaged_go_eq k s.staged)

/-- `remove_staged_task` erases the entry of `k`, unless one of its items is still active -/
theorem removeStaged_eq (s : WState) (k : TaskKey) :
    s.removeStaged k =
      { s with
        staged := if (s.getStaged? k).any fun x => (x.items.getD []).any Status.isActive then s.staged
                  else s.staged.eraseP (matchesKey k) } := by
  unfold removeStaged
  cases h : s.getStaged? k with
  | none =>
    rw [getStaged?_eq, List.find?_eq_none] at h
    simp only [Option.any_none, Bool.false_eq_true, ↓reduceIte, List.eraseP_of_forall_not h]
  | some x =>
    simp only [Option.any_some]
    split
    · rfl
    · exact eraseStaged_eq s k

@[simp] theorem mem_readyStaged {s : WState} {x : Staged} :
    x ∈ s.readyStaged ↔ x ∈ s.staged ∧ x.ready = true ∧ x.completed = false := by
  simp [readyStaged]

theorem getStaged?_some {s : WState} {k : TaskKey} {x : Staged} (h : s.getStaged? k = some x) :
    x ∈ s.staged ∧ x.id = k.1 ∧ x.route = k.2 :=
  ⟨List.mem_of_find?_eq_some h, matchesKey_iff.mp (List.find?_some h)⟩

theorem mem_updateStaged {s : WState} {k : TaskKey} {f : Staged → Staged} {x' : Staged}
    (h : x' ∈ (s.updateStaged k f).staged) : x' ∈ s.staged ∨ ∃ x, s.getStaged? k = some x ∧ x' = f x := by
  rw [updateStaged_eq] at h
  rcases mem_modify h with h | ⟨y, hy, e⟩
  · exact Or.inl h
  · exact Or.inr ⟨y, by rw [getStaged?_eq, List.find?_eq_getElem?_findIdx]; exact hy, e⟩

theorem removeStaged_sublist (s : WState) (k : TaskKey) : (s.removeStaged k).staged.Sublist s.staged := by
  rw [removeStaged_eq]
  show (if _ then _ else _ : List Staged).Sublist _
  split
  · exact List.Sublist.refl _
  · exact List.eraseP_sublist

theorem mem_removeStaged {s : WState} {k : TaskKey} {x : Staged} (h : x ∈ (s.removeStaged k).staged) : x ∈ s.staged :=
  (removeStaged_sublist s k).subset h

theorem updateStaged_map {β} (p : Staged → β) {f : Staged → Staged} (hf : ∀ x, p (f x) = p x) (s : WState)
    (k : TaskKey) : (s.updateStaged k f).staged.map p = s.staged.map p := by
  rw [updateStaged_eq]
  exact map_modify_eq hf _ _

theorem getStaged?_updateStaged_self {f : Staged → Staged} (hf : ∀ x, (f x).id = x.id ∧ (f x).route = x.route)
    (s : WState) (k : TaskKey) : (s.updateStaged k f).getStaged? k = (s.getStaged? k).map f := by
  rw [updateStaged_eq]
  exact find?_modify_findIdx (p := matchesKey k) (fun x => by simp only [matchesKey, hf x]) _

theorem getStaged?_updateStaged_ne {f : Staged → Staged} (hf : ∀ x, (f x).id = x.id ∧ (f x).route = x.route)
    (s : WState) {k k' : TaskKey} (hk : k' ≠ k) : (s.updateStaged k f).getStaged? k' = s.getStaged? k' := by
  rw [updateStaged_eq]
  refine find?_modify_of_not fun x hx => ?_
  have hx : matchesKey k x = true := List.findIdx_of_getElem?_eq_some hx
  have hne : matchesKey k' x = false := Bool.eq_false_iff.mpr fun h =>
    hk (Prod.ext ((matchesKey_iff.mp h).1.symm.trans (matchesKey_iff.mp hx).1)
      ((matchesKey_iff.mp h).2.symm.trans (matchesKey_iff.mp hx).2))
  exact ⟨hne, by rw [← hne]; simp only [hf x, matchesKey]⟩

theorem updateStaged_eq_self {s : WState} {k : TaskKey} {f : Staged → Staged}
    (h : ∀ x, s.getStaged? k = some x → f x = x) : s.updateStaged k f = s := by
  rw [updateStaged_eq, modify_eq_self fun x hx => h x (by rw [getStaged?_eq, List.find?_eq_getElem?_findIdx]; exact hx)]

theorem updateStaged_length (s : WState) (k : TaskKey) (f : Staged → Staged) :
    (s.updateStaged k f).staged.length = s.staged.length := by
  rw [updateStaged_eq]
  exact List.length_modify ..

theorem updateRec_map {β} (p : Rec → β) {g : Rec → Rec} (hg : ∀ r, p (g r) = p r) (s : WState) (i : Nat) :
    (s.updateRec i g).sequence.map p = s.sequence.map p :=
  map_modify_eq hg _ _

theorem updateRec_getElem?_self (s : WState) (i : Nat) (g : Rec → Rec) :
    (s.updateRec i g).sequence[i]? = s.sequence[i]?.map g := List.getElem?_modify_eq ..

@[simp] theorem updateRec_contexts (s : WState) (i g) : (s.updateRec i g).contexts = s.contexts := rfl
@[simp] theorem updateRec_routes (s : WState) (i g) : (s.updateRec i g).routes = s.routes := rfl
@[simp] theorem updateRec_pubLog (s : WState) (i g) : (s.updateRec i g).pubLog = s.pubLog := rfl
@[simp] theorem updateRec_status (s : WState) (i f) : (s.updateRec i f).status = s.status := rfl
@[simp] theorem updateRec_tasks (s : WState) (i f) : (s.updateRec i f).tasks = s.tasks := rfl
@[simp] theorem updateStaged_contexts (s : WState) (k f) : (s.updateStaged k f).contexts = s.contexts := rfl
@[simp] theorem updateStaged_routes (s : WState) (k f) : (s.updateStaged k f).routes = s.routes := rfl
@[simp] theorem updateStaged_sequence (s : WState) (k f) : (s.updateStaged k f).sequence = s.sequence := rfl
@[simp] theorem updateStaged_pubLog (s : WState) (k f) : (s.updateStaged k f).pubLog = s.pubLog := rfl
@[simp] theorem updateStaged_status (s : WState) (k f) : (s.updateStaged k f).status = s.status := rfl
@[simp] theorem updateStaged_tasks (s : WState) (k f) : (s.updateStaged k f).tasks = s.tasks := rfl
@[simp] theorem eraseStaged_contexts (s : WState) (k) : (s.eraseStaged k).contexts = s.contexts := rfl
@[simp] theorem eraseStaged_routes (s : WState) (k) : (s.eraseStaged k).routes = s.routes := rfl
@[simp] theorem eraseStaged_sequence (s : WState) (k) : (s.eraseStaged k).sequence = s.sequence := rfl
@[simp] theorem eraseStaged_pubLog (s : WState) (k) : (s.eraseStaged k).pubLog = s.pubLog := rfl
@[simp] theorem eraseStaged_status (s : WState) (k) : (s.eraseStaged k).status = s.status := rfl
@[simp] theorem addStaged_contexts (s : WState) (x) : (s.addStaged x).contexts = s.contexts := rfl
@[simp] theorem addStaged_routes (s : WState) (x) : (s.addStaged x).routes = s.routes := rfl
@[simp] theorem addStaged_sequence (s : WState) (x) : (s.addStaged x).sequence = s.sequence := rfl
@[simp] theorem addStaged_pubLog (s : WState) (x) : (s.addStaged x).pubLog = s.pubLog := rfl
@[simp] theorem addStaged_status (s : WState) (x) : (s.addStaged x).status = s.status := rfl
@[simp] theorem addStaged_tasks (s : WState) (x) : (s.addStaged x).tasks = s.tasks := rfl

@[simp] theorem removeStaged_contexts (s : WState) (k) : (s.removeStaged k).contexts = s.contexts := by rw [removeStaged_eq]
@[simp] theorem removeStaged_routes (s : WState) (k) : (s.removeStaged k).routes = s.routes := by rw [removeStaged_eq]
@[simp] theorem removeStaged_sequence (s : WState) (k) : (s.removeStaged k).sequence = s.sequence := by rw [removeStaged_eq]
@[simp] theorem removeStaged_pubLog (s : WState) (k) : (s.removeStaged k).pubLog = s.pubLog := by rw [removeStaged_eq]
@[simp] theorem removeStaged_status (s : WState) (k) : (s.removeStaged k).status = s.status := by rw [removeStaged_eq]
@[simp] theorem removeStaged_tasks (s : WState) (k) : (s.removeStaged k).tasks = s.tasks := by rw [removeStaged_eq]
@[simp] theorem setTask_contexts (s : WState) (k i) : (s.setTask k i).contexts = s.contexts := by rw [setTask_eq]
@[simp] theorem setTask_routes (s : WState) (k i) : (s.setTask k i).routes = s.routes := by rw [setTask_eq]
@[simp] theorem setTask_sequence (s : WState) (k i) : (s.setTask k i).sequence = s.sequence := by rw [setTask_eq]
@[simp] theorem setTask_pubLog (s : WState) (k i) : (s.setTask k i).pubLog = s.pubLog := by rw [setTask_eq]
@[simp] theorem setTask_status (s : WState) (k i) : (s.setTask k i).status = s.status := by rw [setTask_eq]
@[simp] theorem setTask_staged (s : WState) (k i) : (s.setTask k i).staged = s.staged := by rw [setTask_eq]

end WState

variable (E : Evaluator)

theorem newRecord_id (c : Cond) (k : TaskKey) (a : List Nat) (b : List (TransId × Nat)) :
    (newRecord E c k a b).1.id = k.1 := by
  unfold newRecord
  dsimp only
  split <;> rfl

theorem newRecord_next (c : Cond) (k : TaskKey) (a : List Nat) (b : List (TransId × Nat)) :
    (newRecord E c k a b).1.next = [] := by
  unfold newRecord
  dsimp only
  split <;> rfl

theorem newRecord_status (c : Cond) (k : TaskKey) (a : List Nat) (b : List (TransId × Nat)) :
    (newRecord E c k a b).1.status = none := by
  unfold newRecord
  dsimp only
  split <;> rfl

theorem newRecord_prev (c : Cond) (k : TaskKey) (a : List Nat) (b : List (TransId × Nat)) :
    (newRecord E c k a b).1.prev = b := by
  unfold newRecord
  dsimp only
  split <;> rfl

theorem newRecord_ctxsIn (c : Cond) (k : TaskKey) (a : List Nat) (b : List (TransId × Nat)) :
    (newRecord E c k a b).1.ctxsIn = if a.isEmpty then [0] else a := by
  unfold newRecord
  dsimp only
  split <;> rfl

end Orq
