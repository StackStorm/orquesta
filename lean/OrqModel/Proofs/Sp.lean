/-
A pointwise Hoare judgement over runs of guarded writes (`Sp`) and its rules, which follow the shape
of a step: a function that leaves the state alone, one write, the writes of one state update, a
function known by its footprint, a loop.  What the guard may rely on (`Carried`) is assumed of the
state a specification starts in and re-established along the run (`Run.carried`), so that no
specification has to thread it.
-/
import OrqModel.Proofs.Keep

namespace Orq

variable {a : Assume} {c0 : Cond}

/-- what is kept along guarded writes: what the guard may rely on, and an invariant `I` with it -/
structure Kept (a : Assume) (I : Cond → Prop) (c : Cond) : Prop where
  tk : a.tk → TK c
  inv : a.full → Inv0 c
  main : I c

theorem Run.kept {I : Cond → Prop} {c c' : Cond} (h : Run (Guard a c0) c c')
    (hI : ∀ c w, Guard a c0 c w → (a.tk → TK c) → (a.full → Inv0 c) → I c → I (w.apply c)) (hc : Kept a I c) : Kept a I c' :=
  h.inv (I := Kept a I) (fun c w hg hc => ⟨fun ht => hg.tk (hc.tk ht),
    fun hf => Inv0.write hg hf (hc.inv hf), hI c w hg hc.tk hc.inv hc.main⟩) hc

/-- what a call that began in `c0` may rely on in every state it passes through -/
abbrev Carried (a : Assume) (c0 : Cond) : Cond → Prop := Kept a fun c => a.full → NK c0 c

theorem Run.carried {c c' : Cond} (h : Run (Guard a c0) c c') (hc : Carried a c0 c) : Carried a c0 c' :=
  h.kept (fun _ _ hg _ _ hn hf => hg.nk hf (hn hf)) hc

/-- The specification of `m` at `c`, a pointwise Hoare judgement: from a state `c` in which `Carried`
    holds, `m` performs guarded writes; `Q` holds of what it returns and of the state it returns in. -/
def Sp (a : Assume) (c0 c : Cond) {α} (m : M α) (Q : α → Cond → Prop) : Prop :=
  Carried a c0 c → Run (Guard a c0) c (m c).2 ∧ ∀ x c', m c = (.ok x, c') → Q x c'

namespace Sp

variable {α β : Type} {c : Cond} {m : M α} {Q : α → Cond → Prop} {f : α → M β} {R : β → Cond → Prop}

theorem bind (hm : Sp a c0 c m Q) (hf : ∀ x c', Q x c' → Sp a c0 c' (f x) R) : Sp a c0 c (m >>= f) R := by
  intro hc
  obtain ⟨hr, hq⟩ := hm hc
  rw [M.bind_run]
  cases h : m c with
  | mk res c1 =>
    rw [h] at hr
    cases res with
    | ok x =>
      obtain ⟨hr', hq'⟩ := hf x c1 (hq x c1 h) (hr.carried hc)
      exact ⟨hr.trans hr', hq'⟩
    | error e => exact ⟨hr, fun _ _ h' => by cases h'⟩

theorem carried (h : Carried a c0 c → Sp a c0 c m Q) : Sp a c0 c m Q := fun hc => h hc hc

theorem run (h : Sp a c0 c m Q) (hc : Carried a c0 c) : Run (Guard a c0) c (m c).2 := (h hc).1

theorem with_eq (h : Sp a c0 c m Q) : Sp a c0 c m fun x c' => Q x c' ∧ m c = (.ok x, c') :=
  fun hc => ⟨(h hc).1, fun x c' e => ⟨(h hc).2 x c' e, e⟩⟩

theorem mono {Q' : α → Cond → Prop} (h : Sp a c0 c m Q) (hq : ∀ x c', Q x c' → Q' x c') : Sp a c0 c m Q' :=
  fun hc => ⟨(h hc).1, fun x c' e => hq x c' ((h hc).2 x c' e)⟩

theorem pure {x : α} (h : Q x c) : Sp a c0 c (Pure.pure x : M α) Q :=
  fun _ => ⟨.refl _, fun _ _ e => by cases e; exact h⟩

theorem throw {e : Err} : Sp a c0 c (M.throw e : M α) Q := fun _ => ⟨.refl _, fun _ _ h => by cases h⟩

theorem bind_pure {x : α} (h : Sp a c0 c (f x) R) : Sp a c0 c (Pure.pure x >>= f) R := h

theorem bind_get {f : Cond → M β} (h : Sp a c0 c (f c) R) : Sp a c0 c (M.get >>= f) R := h

theorem bind_liftOpt {o : Option α} {e : Err} (h : ∀ x, o = some x → Sp a c0 c (f x) R) :
    Sp a c0 c (Orq.liftOpt o e >>= f) R := by
  cases o with
  | none => exact throw
  | some x => exact h x rfl

theorem bind_liftExcept {o : Except Err α} (h : ∀ x, o = .ok x → Sp a c0 c (f x) R) :
    Sp a c0 c (M.liftExcept o >>= f) R := by
  cases o with
  | error e => exact throw
  | ok x => exact h x rfl

/-- the writes of one state update, by a function that may also raise -/
theorem of_run {c' : Cond} (hm : (m c).2 = c') (hr : Run (Guard a c0) c c') (h : ∀ x, Q x c') : Sp a c0 c m Q :=
  fun _ => ⟨hm ▸ hr, fun x c'' e => by rw [e] at hm; exact (show c'' = c' from hm) ▸ h x⟩

theorem bind_run {c' : Cond} (hm : (m c).2 = c') (hr : Run (Guard a c0) c c') (h : ∀ x, Sp a c0 c' (f x) R) :
    Sp a c0 c (m >>= f) R :=
  bind (of_run (Q := fun _ c'' => c'' = c') hm hr fun _ => rfl) fun x _ e => e ▸ h x

/-- a function that leaves the state alone (`h`: it respects every preorder, equality included) -/
theorem bind_rel (h : ∀ P : Pre, Rel P m) (hf : ∀ x, Sp a c0 c (f x) R) : Sp a c0 c (m >>= f) R :=
  bind_run (Eq.symm ((h .eq).run c)) (.refl _) hf

theorem write (w : Write) (hm : (m c).2 = w.apply c) (hg : Guard a c0 c w) (h : ∀ x, Q x (w.apply c)) : Sp a c0 c m Q :=
  of_run hm (Run.single w hg) h

theorem bind_write (w : Write) (hm : (m c).2 = w.apply c) (hg : Guard a c0 c w) (h : ∀ x, Sp a c0 (w.apply c) (f x) R) :
    Sp a c0 c (m >>= f) R :=
  bind_run hm (Run.single w hg) h

/-- a function whose writes need no licence: what it leaves behind is reached by those writes -/
theorem of_writes {F : Write → Prop} (h : Writes F m) (hF : ∀ c w, F w → Guard a c0 c w) :
    Sp a c0 c m fun _ c' => Run (fun _ => F) c c' :=
  fun _ => ⟨(h.run c).mono fun c w hw => hF c w hw, fun _ _ e => by have := h.run c; rw [e] at this; exact this⟩

theorem foldM' {γ : Type} {f : β → γ → M β} (I : List γ → β → Cond → Prop) :
    ∀ (xs : List γ) (b : β) (c : Cond), I xs b c →
      (∀ x rest b c', I (x :: rest) b c' → Sp a c0 c' (f b x) fun b' c'' => I rest b' c'') →
      Sp a c0 c (M.foldM' xs b f) fun b' c' => I [] b' c'
  | [], _, _, h0, _ => Sp.pure h0
  | x :: rest, b, _, h0, hstep => Sp.bind (hstep x rest b _ h0) fun b' c' hI => foldM' I rest b' c' hI hstep

theorem forEach {γ : Type} {f : γ → M Unit} (xs : List γ) (h : ∀ x c', Sp a c0 c' (f x) fun _ _ => True) :
    Sp a c0 c (M.forEach xs f) fun _ _ => True := by
  induction xs generalizing c with
  | nil => exact Sp.pure trivial
  | cons x rest ih => exact Sp.bind (h x c) fun _ c' _ => ih

end Sp

end Orq
