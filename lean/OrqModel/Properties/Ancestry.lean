/-
C06 along every history: the context snapshots a task is rendered from are the initial context and
snapshots that reached the task along satisfied transitions.  Two more facts about offers that are
read off the same closed form of the query: the retry delay a re-offered task carries (C13) and that
a completed with-items entry is not offered (C12).
-/
import OrqModel.Proofs.Query
import OrqModel.Properties.Truth
import OrqModel.Properties.History

namespace Orq

variable (E : Evaluator)

/-- **C06**: along every history (any definition, inputs, evaluator; any order and outcome of
    reports, control requests, reruns), every context snapshot listed by a staged entry or a task
    record of task `t` is the initial context or reached `t` through a record that recorded `true`
    for a transition into `t` and either was rendered from that snapshot itself or published it on
    that transition.  By induction along such records: what a task sees was published on a chain
    of satisfied transitions ending in it — never on a transition that does not lead to it. -/
theorem C06_snapshots_reach_along_true_transitions (spec : WfSpec) (parentCtx inputs : Val.Dict) (ops : List Op)
    (hops : ∀ op ∈ ops, op.notRetryEvent) :
    CA (runOps E ops (init E spec parentCtx inputs)) :=
  (history_keeps E .all (fun _ _ _ hg _ _ hj => hg.ca trivial hj) spec parentCtx inputs
    ⟨fun _ h => (by cases h), fun _ h => (by cases h)⟩ ops fun _ => hops).main

/-- the publication log only ever grows (it is a ghost: no model function reads it) -/
theorem C06_publications_append_only (ops : List Op) (c : Cond) :
    ∃ l, (runOps E ops c).st.pubLog = c.st.pubLog ++ l :=
  (C18_history_extends E ops c).2.2.2

/-- **C06**, inheritance: along every history (no restriction on the operations), every staged
    entry and every task record is rendered from the initial context (index 0 is listed) and from
    every snapshot each predecessor it lists was rendered from: what a task saw, its successors
    see. -/
theorem C06_predecessor_snapshots_inherited (spec : WfSpec) (parentCtx inputs : Val.Dict) (ops : List Op) :
    IN (runOps E ops (init E spec parentCtx inputs)) :=
  (history_keeps E .nothing (fun _ _ _ hg _ _ hi => hg.inh hi) spec parentCtx inputs
    ⟨fun _ h => (by cases h), fun _ h => (by cases h)⟩ ops fun h => h.elim False.elim False.elim).main

/-- … for what is offered -/
theorem C06_offer_inherits_predecessor_snapshots (spec : WfSpec) (parentCtx inputs : Val.Dict) (ops : List Op)
    (offers : List Offer) (c' : Cond)
    (h : getNextTasks E (runOps E ops (init E spec parentCtx inputs)) = (.ok offers, c')) :
    ∀ o ∈ offers, ∃ sx ∈ (runOps E ops (init E spec parentCtx inputs)).st.staged,
      sx.id = o.id ∧ sx.route = o.route ∧ 0 ∈ sx.ctxsIn ∧
      ∀ p ∈ sx.prev, ∃ q, (runOps E ops (init E spec parentCtx inputs)).st.sequence[p.2]? = some q ∧
        ∀ i ∈ q.ctxsIn, i ∈ sx.ctxsIn := by
  intro o ho
  obtain ⟨sx, hmem, h1, h2, -⟩ := offer_entry E _ offers c' h o ho
  have hin := (C06_predecessor_snapshots_inherited E spec parentCtx inputs ops).staged sx hmem
  exact ⟨sx, hmem, h1, h2, hin.1, hin.2⟩

/-- **C06**, first link, for every state: the context of every offered task is the overlay (in
    list order, later snapshots overriding earlier ones) of exactly the context snapshots listed
    by the staged entry `get_task` looks up for the offered task and route -/
theorem C06_offer_context_is_overlay (c : Cond) (offers : List Offer) (c' : Cond)
    (h : getNextTasks E c = (.ok offers, c')) :
    ∀ o ∈ offers, ∃ sx ∈ c.st.staged, sx.id = o.id ∧ sx.route = o.route ∧
      c.st.getStaged? (o.id, o.route) = some sx ∧ c.st.taskContext sx.ctxsIn = .ok o.ctx := by
  intro o ho
  have hspec := nextFrom_ctx E (nextTodo c.st) c c' offers h o ho
  obtain ⟨sx0, hmem0, h1, h2, -⟩ := offer_entry E c offers c' h o ho
  cases hg : c.st.getStaged? (o.id, o.route) with
  | none =>
    rw [WState.getStaged?_eq, List.find?_eq_none] at hg
    exact absurd (matchesKey_iff.mpr ⟨h1, h2⟩) (hg sx0 hmem0)
  | some sx =>
    obtain ⟨hmem, hid, hroute⟩ := WState.getStaged?_some hg
    refine ⟨sx, hmem, hid, hroute, rfl, ?_⟩
    unfold taskCtxIdxs at hspec
    rw [hg] at hspec
    exact hspec

/-- **C06**, the chain for what is offered at any point of any history: the offered task's context
    is the overlay of the snapshots its staged entry lists; index 0 (input and vars) is among
    them; every listed snapshot is index 0 or reached the task along a satisfied transition; and
    everything each listed predecessor was rendered from is listed -/
theorem C06_offer_context_from_ancestors (spec : WfSpec) (parentCtx inputs : Val.Dict) (ops : List Op)
    (hops : ∀ op ∈ ops, op.notRetryEvent) (offers : List Offer) (c' : Cond)
    (h : getNextTasks E (runOps E ops (init E spec parentCtx inputs)) = (.ok offers, c')) :
    ∀ o ∈ offers, ∃ sx ∈ (runOps E ops (init E spec parentCtx inputs)).st.staged,
      sx.id = o.id ∧ sx.route = o.route ∧
      (runOps E ops (init E spec parentCtx inputs)).st.taskContext sx.ctxsIn = .ok o.ctx ∧
      0 ∈ sx.ctxsIn ∧
      (∀ i ∈ sx.ctxsIn, i = 0 ∨ Via (runOps E ops (init E spec parentCtx inputs)) o.id i) ∧
      (∀ p ∈ sx.prev, ∃ q, (runOps E ops (init E spec parentCtx inputs)).st.sequence[p.2]? = some q ∧
        ∀ i ∈ q.ctxsIn, i ∈ sx.ctxsIn) := by
  intro o ho
  obtain ⟨sx, hmem, hid, hroute, _, hctx⟩ := C06_offer_context_is_overlay E _ offers c' h o ho
  have hca := (C06_snapshots_reach_along_true_transitions E spec parentCtx inputs ops hops).staged sx hmem
  have hin := (C06_predecessor_snapshots_inherited E spec parentCtx inputs ops).staged sx hmem
  refine ⟨sx, hmem, hid, hroute, hctx, hin.1, ?_, hin.2⟩
  intro i hi
  rw [← hid]
  exact hca i hi

/-- **C06**, for what is offered: every task the conductor offers is rendered from the snapshots
    its staged entry lists, and each of them is the initial context or reached the offered task
    along a satisfied transition (see `Via`). -/
theorem C06_offer_snapshots_from_ancestors (spec : WfSpec) (parentCtx inputs : Val.Dict) (ops : List Op)
    (hops : ∀ op ∈ ops, op.notRetryEvent) (offers : List Offer) (c' : Cond)
    (h : getNextTasks E (runOps E ops (init E spec parentCtx inputs)) = (.ok offers, c')) :
    ∀ o ∈ offers, ∃ sx ∈ (runOps E ops (init E spec parentCtx inputs)).st.staged,
      sx.id = o.id ∧ sx.route = o.route ∧
      ∀ i ∈ sx.ctxsIn, i = 0 ∨ Via (runOps E ops (init E spec parentCtx inputs)) o.id i := by
  intro o ho
  obtain ⟨sx, hmem, hid, hroute, _, _, hvia, _⟩ :=
    C06_offer_context_from_ancestors E spec parentCtx inputs ops hops offers c' h o ho
  exact ⟨sx, hmem, hid, hroute, hvia⟩

/-- **C06**, completeness for named predecessors: along every history, whatever a predecessor
    named by a staged entry or record of task `t` published on its transition into `t` is among
    the snapshots that entry lists; and the publication log only records transitions that were
    decided true -/
theorem C06_published_snapshots_listed (spec : WfSpec) (parentCtx inputs : Val.Dict) (ops : List Op)
    (hops : ∀ op ∈ ops, op.notRetryEvent) :
    PL (runOps E ops (init E spec parentCtx inputs)) :=
  (history_keeps E .all (I := fun c => IN c ∧ PL c)
    (fun _ _ _ hg _ _ h => ⟨hg.inh h.1, hg.pl trivial h.1 h.2⟩)
    spec parentCtx inputs
    ⟨⟨fun _ h => (by cases h), fun _ h => (by cases h)⟩, fun _ h => (by cases h), fun _ h => (by cases h), fun _ h => (by cases h)⟩
    ops fun _ => hops).main.2

/-- **C06**, the whole chain for what is offered at any point of any history: the offered task is
    rendered from exactly the snapshots its staged entry lists; these contain the initial context,
    everything each named predecessor was rendered from and whatever it published on its
    transition into the task; and they contain nothing that did not reach the task along a
    satisfied transition -/
theorem C06_offer_context_exact (spec : WfSpec) (parentCtx inputs : Val.Dict) (ops : List Op)
    (hops : ∀ op ∈ ops, op.notRetryEvent) (offers : List Offer) (c' : Cond)
    (h : getNextTasks E (runOps E ops (init E spec parentCtx inputs)) = (.ok offers, c')) :
    ∀ o ∈ offers, ∃ sx ∈ (runOps E ops (init E spec parentCtx inputs)).st.staged,
      sx.id = o.id ∧ sx.route = o.route ∧
      (runOps E ops (init E spec parentCtx inputs)).st.taskContext sx.ctxsIn = .ok o.ctx ∧
      0 ∈ sx.ctxsIn ∧
      (∀ p ∈ sx.prev, ∃ q, (runOps E ops (init E spec parentCtx inputs)).st.sequence[p.2]? = some q ∧
        ∀ i ∈ q.ctxsIn, i ∈ sx.ctxsIn) ∧
      (∀ p ∈ sx.prev, ∀ i, (p.2, ((o.id, p.1.2) : TransId), i) ∈ (runOps E ops (init E spec parentCtx inputs)).st.pubLog →
        i ∈ sx.ctxsIn) ∧
      (∀ i ∈ sx.ctxsIn, i = 0 ∨ Via (runOps E ops (init E spec parentCtx inputs)) o.id i) := by
  intro o ho
  obtain ⟨sx, hmem, hid, hroute, hctx, h0, hvia, hinh⟩ :=
    C06_offer_context_from_ancestors E spec parentCtx inputs ops hops offers c' h o ho
  have hpl := (C06_published_snapshots_listed E spec parentCtx inputs ops hops).staged sx hmem
  refine ⟨sx, hmem, hid, hroute, hctx, h0, hinh, ?_, hvia⟩
  intro p hp i hi
  rw [← hid] at hi
  exact hpl p hp i hi

/-- **C13**, for every state: every offer comes from one of the ready staged entries the query
    looked at, and when that entry was re-staged for a retry the offer carries the retry policy's
    delay (the evaluated value; 0 when none is configured or it is not truthy) instead of the
    task's own delay -/
theorem C13_reoffer_carries_retry_delay (c : Cond) (offers : List Offer) (c' : Cond)
    (h : getNextTasks E c = (.ok offers, c')) :
    ∀ o ∈ offers, ∃ sx ∈ c.st.readyStaged, sx.id = o.id ∧ sx.route = o.route ∧
      ∀ r, sx.retry = some r → o.delay = some (retryDelayOf r) := by
  intro o ho
  obtain ⟨sx, hsx, h1, h2, h3⟩ := nextFrom_delay E (nextTodo c.st) c c' offers h o ho
  exact ⟨sx, (nextTodo_sub c.st sx hsx).1, h1, h2, h3⟩

/-- **C12/C13**: nothing is offered from a staged entry that is flagged completed (the entry a
    failed with-items task keeps for a manual rerun) or that is not ready -/
theorem C12_completed_entry_not_offered (c : Cond) (offers : List Offer) (c' : Cond)
    (h : getNextTasks E c = (.ok offers, c')) :
    ∀ o ∈ offers, ∃ sx ∈ c.st.staged, sx.id = o.id ∧ sx.route = o.route ∧ sx.ready = true ∧ sx.completed = false :=
  offer_entry E c offers c' h

/-- non-vacuity: a state with a published snapshot reaching a staged task -/
def exampleStateCA : Cond where
  spec := ⟨[], [], [], []⟩
  graph := {}
  st := { contexts := [[], [("v", .int 1)]],
          sequence := [{ id := "a", route := 0, ctxsIn := [0], status := some .succeeded, next := [(("b", 0), true)] }],
          staged := [{ id := "b", route := 0, ctxsIn := [0, 1], prev := [(("a", 0), 0)], ready := true }],
          pubLog := [(0, ("b", 0), 1)] }

example : CA exampleStateCA := by
  refine ⟨fun x hx i hi => ?_, fun r hr => ?_⟩
  · cases List.mem_singleton.mp hx
    obtain rfl | hi := List.mem_cons.mp hi
    · exact .inl rfl
    · cases List.mem_singleton.mp hi
      exact .inr ⟨0, _, 0, rfl, List.mem_singleton.mpr rfl, .inr (List.mem_singleton.mpr rfl)⟩
  · cases List.mem_singleton.mp hr
    exact CtxOk.zero _ _

end Orq
