/-
C11: for *every* evaluator — in particular one that fails wherever it likes — no conductor API
operation lets an expression-evaluation exception out.  (Whether the failure is then recorded and
fails the workflow is visible in the model code: every handler is `logError …; requestStatus
.failed`; `tbl_failed_request_total` shows that request is honoured in every non-terminal status.)
-/
import OrqModel.Proofs.Write
import OrqModel.Properties.MergeOrder

namespace Orq

variable (E : Evaluator)

def notExpr : Err → Prop := fun e => e ≠ .expr

theorem taskContext_notExpr (st : WState) (idxs : List Nat) :
    ∀ e, st.taskContext idxs = .error e → notExpr e := by
  intro e h
  rw [taskContext_eq, foldlM_ctxStep] at h
  split at h <;> cases h
  exact nofun

theorem taskSequence_notExpr (s : WState) (k : TaskKey) : ∀ e, taskSequence s k = .error e → notExpr e := by
  intro e h
  unfold taskSequence at h
  split at h
  · injection h with h1; rw [← h1]; intro hc; cases hc
  · cases h

theorem wfProcessTaskEvent_raises (k ev) : Raises (wfProcessTaskEvent k ev) notExpr :=
  ⟨fun c e s' h => by obtain ⟨_, _, rfl⟩ := (wfAnswer_raises _ _).run c e s' h; exact nofun⟩

theorem wfProcessWorkflowEvent_raises (req) : Raises (wfProcessWorkflowEvent req) notExpr :=
  ⟨fun c e s' h => by obtain ⟨_, _, rfl⟩ := (wfAnswer_raises _ _).run c e s' h; exact nofun⟩

theorem tkProcessWorkflowEvent_raises (i req) : Raises (tkProcessWorkflowEvent i req) notExpr := by
  constructor
  intro c e s' h
  unfold tkProcessWorkflowEvent at h
  repeat' split at h
  all_goals (cases h <;> (intro hc; cases hc))

theorem tkEventStep_err (c r ev) : ∀ e, tkEventStep c r ev = .error e → notExpr e := by
  intro e h
  unfold tkEventStep at h
  dsimp only at h
  repeat' split at h
  all_goals (cases h <;> (intro hc; cases hc))

theorem tkProcessEvent_raises (i ev) : Raises (tkProcessEvent i ev) notExpr := by
  constructor
  intro c e s' h
  unfold tkProcessEvent at h
  split at h
  · cases h; intro hc; cases hc
  · split at h
    · next e1 he1 => cases h; exact tkEventStep_err _ _ _ _ he1
    · cases h; intro hc; cases hc
    · split at h <;> cases h

/-- The walk for `Raises`, built like `writes_walk` (`Proofs/Footprint.lean`): rules and facts are tried
    at reducible transparency. -/
syntax "raises_walk" "[" term,* "]" : tactic
macro_rules
  | `(tactic| raises_walk [$ts,*]) => do
    let alts ← ts.getElems.mapM fun t => `(tactic| exact $t)
    `(tactic| repeat' (first
      | with_reducible (first
        | exact Raises.pure _ | exact Raises.get | exact Raises.modify _
        | exact Raises.modifySt _
        | exact Raises.liftExcept _ (taskContext_notExpr _ _)
        | exact wfProcessWorkflowEvent_raises _ | exact wfProcessTaskEvent_raises _ _
        | exact tkProcessWorkflowEvent_raises _ _ | exact tkProcessEvent_raises _ _
        $[| $alts:tactic]*
        | apply Raises.tryCatch
        | apply Raises.ite
        | apply Raises.bind | apply Raises.forEach | apply Raises.foldM')
      | (with_reducible first | apply Raises.throw | apply Raises.liftOpt) <;> (intro hc; cases hc)
      | intro _ | split | dsimp only ))

theorem logEntry_raises (e) : Raises (logEntry e) notExpr := Raises.modify _
theorem logError_raises (k a b c) : Raises (logError k a b c) notExpr := Raises.modify _

/-- **C11**: a status request never raises an expression error -/
theorem C11_request_never_raises_expr (req) : Raises (requestStatus req) notExpr := by
  unfold requestStatus
  raises_walk []

theorem failOnError_raises : Raises failOnError notExpr := by
  unfold failOnError
  raises_walk [C11_request_never_raises_expr _]

theorem nextTaskFor_raises (sx) : Raises (nextTaskFor E sx) notExpr := by
  unfold nextTaskFor
  raises_walk [logError_raises _ _ _ _]

theorem nextFrom_raises (todo) : Raises (nextFrom E todo) notExpr := by
  unfold nextFrom
  raises_walk [nextTaskFor_raises E _, failOnError_raises]

/-- **C11**: whatever the evaluator does — action, input, with-items list, concurrency and delay
    expressions may all fail — `get_next_tasks` never raises an expression error -/
theorem C11_next_never_raises_expr : Raises (getNextTasks E) notExpr :=
  ⟨fun c e s' h => (nextFrom_raises E (nextTodo c.st)).run c e s' h⟩

theorem addTaskState_raises (k a b) : Raises (addTaskState E k a b) notExpr := by
  unfold addTaskState
  raises_walk [logError_raises _ _ _ _, failOnError_raises]

theorem evaluateRoute_raises (e r) : Raises (evaluateRoute e r) notExpr := by
  unfold evaluateRoute
  raises_walk []

theorem stageNext_raises (k idx e o acc) : Raises (stageNext k idx e o acc) notExpr := by
  unfold stageNext stageTarget
  raises_walk [evaluateRoute_raises _ _]

theorem fireTransition_raises (k idx ec acc e) : Raises (fireTransition E k idx ec acc e) notExpr := by
  unfold fireTransition
  raises_walk [logError_raises _ _ _ _, failOnError_raises, stageNext_raises _ _ _ _ _]

theorem processTransition_raises (k idx ec acc e) : Raises (processTransition E k idx ec acc e) notExpr := by
  unfold processTransition
  raises_walk [logError_raises _ _ _ _, failOnError_raises, fireTransition_raises E _ _ _ _ _]

theorem makeTaskContext_raises (k idx r) : Raises (makeTaskContext k idx r) notExpr := by
  unfold makeTaskContext
  raises_walk []

theorem ensureRecord_raises (k s r ev) : Raises (ensureRecord E k s r ev) notExpr := by
  unfold ensureRecord firstRecord recordFromStaged
  raises_walk [addTaskState_raises E _ _ _]

theorem noteEvent_raises (k s ev) : Raises (noteEvent k s ev) notExpr := by
  unfold noteEvent
  raises_walk [logEntry_raises _]

theorem restageRetry_raises (k idx o) : Raises (restageRetry k idx o) notExpr := by
  unfold restageRetry
  raises_walk []

theorem completedRetryDecision_raises (k idx ts os ns ev) :
    Raises (completedRetryDecision E k idx ts os ns ev) notExpr := by
  unfold completedRetryDecision
  raises_walk [makeTaskContext_raises _ _ _, logError_raises _ _ _ _, failOnError_raises]

theorem evalTransitions_raises (k idx ts ev) : Raises (evalTransitions E k idx ts ev) notExpr := by
  unfold evalTransitions
  raises_walk [makeTaskContext_raises _ _ _, processTransition_raises E _ _ _ _ _]

theorem markTermIfCompleted_raises (idx) : Raises (markTermIfCompleted idx) notExpr := by
  unfold markTermIfCompleted
  raises_walk []

theorem machineStep_raises (k idx ev) : Raises (machineStep k idx ev) notExpr := by
  unfold machineStep
  raises_walk [restageRetry_raises _ _ _]

theorem updateHead_raises (k ev) : Raises (updateHead E k ev) notExpr := by
  unfold updateHead
  raises_walk [ensureRecord_raises E _ _ _ _, noteEvent_raises _ _ _, machineStep_raises _ _ _]

theorem updateTail_raises (recur : TaskKey → Event → M Unit) (hrec : ∀ k ev, Raises (recur k ev) notExpr)
    (k ev h) : Raises (updateTail E recur k ev h) notExpr := by
  unfold updateTail updateRest
  raises_walk [hrec _ _, completedRetryDecision_raises E _ _ _ _ _ _, evalTransitions_raises E _ _ _ _, markTermIfCompleted_raises _]

theorem updateTaskStateAux_raises (fuel k ev) : Raises (updateTaskStateAux E fuel k ev) notExpr := by
  induction fuel generalizing k ev with
  | zero => unfold updateTaskStateAux; exact Raises.throw (by intro hc; cases hc)
  | succ n ih =>
    unfold updateTaskStateAux
    raises_walk [updateHead_raises E _ _, updateTail_raises E _ ih _ _ _]

/-- **C11**: whatever the evaluator does — retry condition/count/delay, transition conditions and
    publishes may all fail — `update_task_state` never raises an expression error -/
theorem C11_update_never_raises_expr (k ev) : Raises (updateTaskState E k ev) notExpr :=
  updateTaskStateAux_raises E 3 k ev

theorem terminalContext_raises : Raises terminalContext notExpr := by
  unfold terminalContext
  raises_walk []

/-- **C11**: output rendering never raises an expression error -/
theorem C11_render_never_raises_expr : Raises (renderOutput E) notExpr := by
  unfold renderOutput
  raises_walk [terminalContext_raises, logError_raises _ _ _ _, failOnError_raises]

/-- non-vacuity: an evaluator that always fails is an `Evaluator` -/
example : Raises (getNextTasks ⟨fun _ _ => none⟩) notExpr := C11_next_never_raises_expr _

end Orq
