/-
Property theorems about the workflow status, for every definition, every evaluator and every
history (list of API calls) — clauses of C02, C03, C04, C09, C10, and the table facts C01, C11,
C15 and C18 rest on.  Each is a corollary of the refinement
of the operations to the status automaton (`Proofs/StatusTrace.lean`) and of facts about the
*generated* state-machine functions, closed by kernel evaluation over their whole domain.
-/
import OrqModel.Proofs.StatusTrace
import OrqModel.Proofs.TaskMachine

namespace Orq

def anyReq : Status → Bool := fun _ => true
/-- only the conductor's own `failed` request (what `get_next_tasks`, `update_task_state` and
    `render_workflow_output` can issue) -/
def onlyFailed : Status → Bool := fun s => s == .failed

/-- a set of statuses closed under the moves is invariant along every rerun-free history -/
theorem runOps_closed (E : Evaluator) {S : Status → Prop}
    (hS : ∀ a b, S a → WfMove anyReq a b → S b)
    (ops : List Op) (hops : ∀ op ∈ ops, op.isRerun = false) (c : Cond) (hc : S c.st.status) :
    S (runOps E ops c).st.status :=
  WfTrace.closed hS ((runOps_run E ops (fun op hop _ _ => Op.writes_statusOk E rfl (hops op hop) fun _ _ => rfl) c).rel
    (P := statusPre anyReq) Write.statusTrace) hc

theorem tbl_task_valid : ∀ (s ev : Status) (rem act : Bool) (oc : Outcome) (s' : Status),
    wfOnTaskEvent s ev rem act oc = .ok s' → wfTransitionValid s s' = true := by decide +kernel

theorem tbl_req_valid : ∀ (s req : Status) (a st p : Bool) (s' : Status),
    wfOnWorkflowEvent s req a st p = .ok s' → wfTransitionValid s s' = true := by decide +kernel

/-- where a status change can trigger the unreachable-join check, `failed` is a valid target too -/
theorem valid_unreach : ∀ {s s' : Status}, wfTransitionValid s s' = true → s' ≠ s →
    (wfUnreachCheck s' = true ∨ wfReqUnreachCheck s' = true) → wfTransitionValid s .failed = true := by
  decide +kernel

theorem WfMove.valid {A a b} (m : WfMove A a b) : wfTransitionValid a b = true := by
  cases m with
  | taskEvent ev rem act oc h => exact tbl_task_valid _ _ _ _ _ _ h
  | taskEventUnreach ev rem act oc h hne hc => exact valid_unreach (tbl_task_valid _ _ _ _ _ _ h) hne (.inl hc)
  | wfEvent req x y z _ h => exact tbl_req_valid _ _ _ _ _ _ h
  | wfEventUnreach req x y z _ h hne hc => exact valid_unreach (tbl_req_valid _ _ _ _ _ _ h) hne (.inr hc)

/-- a set of statuses closed under the valid transitions is invariant along every rerun-free
    history; for a given set the premise is a finite check -/
theorem runOps_valid_closed (E : Evaluator) {S : Status → Prop}
    (hS : ∀ a b, S a → wfTransitionValid a b = true → S b)
    (ops : List Op) (hops : ∀ op ∈ ops, op.isRerun = false) (c : Cond) (hc : S c.st.status) :
    S (runOps E ops c).st.status :=
  runOps_closed E (fun a b ha m => hS a b ha m.valid) ops hops c hc

def cancelFamily : Status → Bool := fun s => s == .canceling || s == .canceled || s == .failed

/-- **C10** (closure): once the workflow is canceling or canceled (or has failed), no history of
    status requests, next-task queries, completion reports and output renderings — whatever the
    definition, the evaluator and the order — takes it anywhere but canceling, canceled or failed.
    In particular it never ends `succeeded` and is never `running` again. -/
theorem C10_cancel_family_closed (E : Evaluator) (ops : List Op)
    (hops : ∀ op ∈ ops, op.isRerun = false) (c : Cond) (hc : cancelFamily c.st.status = true) :
    cancelFamily (runOps E ops c).st.status = true :=
  runOps_valid_closed E (S := fun s => cancelFamily s = true) (by decide +kernel) ops hops c hc

theorem C10_never_succeeds (E : Evaluator) (ops : List Op)
    (hops : ∀ op ∈ ops, op.isRerun = false) (c : Cond) (hc : cancelFamily c.st.status = true) :
    (runOps E ops c).st.status ≠ .succeeded :=
  fun h => absurd (h ▸ C10_cancel_family_closed E ops hops c hc) (by decide)

/-- non-vacuity: the premise is met by a canceling conductor -/
example : cancelFamily Status.canceling = true := rfl

theorem tbl_succeeded_task : ∀ (ev : Status) (rem act : Bool) (oc : Outcome) (s' : Status),
    wfOnTaskEvent .succeeded ev rem act oc = .ok s' → s' = .succeeded := by decide +kernel
theorem tbl_succeeded_wf : ∀ (req : Status) (a st p : Bool) (s' : Status),
    wfOnWorkflowEvent .succeeded req a st p = .ok s' →
      s' = .succeeded ∨ (s' = .failed ∧ req = .failed) := by decide +kernel

/-- **C04**: `failed` is absorbing along every rerun-free history. -/
theorem C04_failed_final (E : Evaluator) (ops : List Op) (hops : ∀ op ∈ ops, op.isRerun = false)
    (c : Cond) (hc : c.st.status = .failed) : (runOps E ops c).st.status = .failed :=
  runOps_valid_closed E (S := fun s => s = .failed) (by decide +kernel) ops hops c hc

/-- **C04**: `canceled` is absorbing along every rerun-free history (in particular it is not
    turned into `failed` by the unreachable-join check). -/
theorem C04_canceled_final (E : Evaluator) (ops : List Op) (hops : ∀ op ∈ ops, op.isRerun = false)
    (c : Cond) (hc : c.st.status = .canceled) : (runOps E ops c).st.status = .canceled :=
  runOps_valid_closed E (S := fun s => s = .canceled) (by decide +kernel) ops hops c hc

/-- **C04**: from `succeeded` the only exit (without rerun) is to `failed`, and only through a
    request for `failed` (output rendering error, or the provider's own request). -/
theorem C04_succeeded_final (E : Evaluator) (ops : List Op) (hops : ∀ op ∈ ops, op.isRerun = false)
    (c : Cond) (hc : c.st.status = .succeeded) :
    (runOps E ops c).st.status = .succeeded ∨ (runOps E ops c).st.status = .failed :=
  runOps_valid_closed E (S := fun s => s = .succeeded ∨ s = .failed) (by decide +kernel) ops hops c (.inl hc)

/-- single call: a completion report, a next-task query or an output rendering can take
    `succeeded` only to `succeeded` or `failed`, and a report alone leaves `succeeded` unchanged
    unless the conductor itself requests `failed`. -/
theorem C04_report_keeps_terminal (E : Evaluator) (k : TaskKey) (ev : Event) (c : Cond)
    (hc : c.st.status = .failed ∨ c.st.status = .canceled) :
    (updateTaskState E k ev c).2.st.status = c.st.status := by
  rcases hc with hc | hc <;> rw [hc]
  · exact C04_failed_final E [.report k ev] (List.forall_mem_singleton.mpr rfl) c hc
  · exact C04_canceled_final E [.report k ev] (List.forall_mem_singleton.mpr rfl) c hc

/-- no task event (nor the conductor's own `failed` request) takes a pausing workflow to a
    running status; the only way back is an explicit request -/
theorem tbl_pausing_no_running_task : ∀ (ev : Status) (rem act : Bool) (oc : Outcome) (s' : Status),
    wfOnTaskEvent .pausing ev rem act oc = .ok s' → s'.isRunning = false := by decide +kernel

theorem tbl_pausing_failed_req : ∀ (a st p : Bool) (s' : Status),
    wfOnWorkflowEvent .pausing .failed a st p = .ok s' → s'.isRunning = false := by decide +kernel

/-- **C09**: a completion report processed while `pausing` never resumes the workflow. -/
theorem C09_report_while_pausing (b : Status) (m : WfMove onlyFailed .pausing b) : b.isRunning = false := by
  cases m with
  | taskEvent ev rem act oc h => exact tbl_pausing_no_running_task _ _ _ _ _ h
  | taskEventUnreach ev rem act oc h _ _ => rfl
  | wfEvent req x y z hA h =>
    obtain rfl : req = .failed := eq_of_beq hA
    exact tbl_pausing_failed_req _ _ _ _ h
  | wfEventUnreach req x y z hA h _ _ => rfl

/-- from `paused` the only task reports that set the workflow running again are a task reported
    running or resuming (the provider resuming a paused or pending task) -/
theorem tbl_paused_doors : ∀ (ev : Status) (rem act : Bool) (oc : Outcome) (s' : Status),
    wfOnTaskEvent .paused ev rem act oc = .ok s' → s'.isRunning = true →
      ev = .running ∨ ev = .resuming := by decide +kernel

/-- **C02/C09**: every entry into `paused` or `canceled` by a task event happens with no active
    task (`has_active_tasks` false at that moment) -/
theorem tbl_dormant_doors_task (s ev : Status) (rem act : Bool) (oc : Outcome) (s' : Status)
    (h : wfOnTaskEvent s ev rem act oc = .ok s') (hne : s' ≠ s) (hs : s' = .paused ∨ s' = .canceled) :
    act = false := by
  revert s ev rem act oc s'
  decide +kernel

/-- a request takes the workflow to `paused` or `canceled` only when no task is active, and to
    `pausing` or `canceling` only when one is -/
theorem tbl_req_doors : ∀ (s req : Status) (a st p : Bool) (s' : Status),
    wfOnWorkflowEvent s req a st p = .ok s' → s' ≠ s →
      ((s' = .paused ∨ s' = .canceled) → a = false) ∧ ((s' = .pausing ∨ s' = .canceling) → a = true) := by
  decide +kernel

theorem tbl_dormant_doors_wf (s req : Status) (a st p : Bool) (s' : Status)
    (h : wfOnWorkflowEvent s req a st p = .ok s') (hne : s' ≠ s) (hs : s' = .paused ∨ s' = .canceled) :
    a = false :=
  (tbl_req_doors s req a st p s' h hne).1 hs

/-- every entry into `pausing` or `canceling` by a task event or request happens with an active
    task, except the explicit task-level `canceling` report -/
theorem tbl_active_doors_wf (s req : Status) (a st p : Bool) (s' : Status)
    (h : wfOnWorkflowEvent s req a st p = .ok s') (hne : s' ≠ s) (hs : s' = .pausing ∨ s' = .canceling) :
    a = true :=
  (tbl_req_doors s req a st p s' h hne).2 hs

/-- **C02/C03**: the only doors into `succeeded` are a task success/remediation with no active
    task and the `completed` outcome (nothing staged, no next task), the resume of a paused
    workflow that has nothing left, and the explicit request. -/
theorem tbl_succeeded_doors_task : ∀ (s ev : Status) (rem act : Bool) (oc : Outcome),
    wfOnTaskEvent s ev rem act oc = .ok .succeeded → s ≠ .succeeded →
      act = false ∧ oc = .completed ∧ (s = .running ∨ s = .resuming) := by decide +kernel

/-- **C02**: an unhandled task failure (reported status `failed`, not remediated) fails the
    workflow from every status in which a task can report, unless a cancellation is in progress. -/
theorem tbl_failure_covered : ∀ (s : Status) (act : Bool) (oc : Outcome),
    (s = .running ∨ s = .pausing ∨ s = .paused ∨ s = .resuming) →
      wfOnTaskEvent s .failed false act oc = .ok .failed := by decide +kernel

theorem tbl_failure_canceling : ∀ (act : Bool) (oc : Outcome) (s' : Status),
    wfOnTaskEvent .canceling .failed false act oc = .ok s' → s' = .canceling ∨ s' = .canceled := by
  decide +kernel

/-- **C11/C02**: the conductor's own `failed` request is honoured in every non-terminal status -/
theorem tbl_failed_request_total : ∀ (s : Status) (a st p : Bool),
    (s = .unset ∨ s = .requested ∨ s = .scheduled ∨ s = .delayed ∨ s = .running ∨ s = .pausing ∨
     s = .paused ∨ s = .resuming ∨ s = .canceling ∨ s = .succeeded) →
      wfOnWorkflowEvent s .failed a st p = .ok .failed ∧ wfTransitionValid s .failed = true := by
  decide +kernel

/-- every status a task can reach through the task state machine has a `task_<status>` event, so
    reporting it to the workflow machine cannot raise `InvalidEvent` -/
theorem tbl_task_targets_have_events (tk ev s' : Status)
    (h : tkOnActionEvent tk ev = .ok s') (hne : s' ≠ .unset) : hasTaskEvent s' = true :=
  tkMove_event (tbl_tk_action tk ev s' h) hne

theorem tbl_item_targets_have_events (tk ev : Status) (a p c f i : Bool) (s' : Status)
    (h : tkOnItemEvent tk ev a p c f i = .ok s') (hne : s' ≠ .unset) : hasTaskEvent s' = true :=
  tkMove_event (tbl_tk_item tk ev a p c f i s' h) hne

def leavesActive : Status → Bool
  | .pending | .paused | .succeeded | .failed | .canceled | .retrying => true
  | _ => false

def resting : Status → Bool
  | .succeeded | .failed | .canceled | .paused => true
  | _ => false

/-- **C02/C03** (last one out): when a task leaves the active set and no other task is active, a
    pausing or canceling workflow does not stay pausing or canceling -/
theorem tbl_leave_active_total : ∀ (s ev : Status) (rem : Bool) (oc : Outcome),
    (s == .pausing || s == .canceling) = true → leavesActive ev = true →
      (wfOnTaskEvent s ev rem false oc).all? (fun s' => !(s' == .pausing || s' == .canceling)) = true := by
  decide +kernel

/-- **C03**: a completion with nothing active brings a running or resuming workflow to rest,
    unless something is staged or a next task exists (outcome `incomplete`) -/
theorem tbl_quiescent_resolves : ∀ (s ev : Status) (rem : Bool) (oc : Outcome),
    (s == .running || s == .resuming) = true → (ev == .succeeded || ev == .failed || ev == .canceled) = true →
      (wfOnTaskEvent s ev rem false oc).all? (fun s' => resting s' || oc == .incomplete) = true := by
  decide +kernel

/-- the statuses a workflow can be in (every status the workflow machine or a request can set) -/
def wfReachable : Status → Bool
  | .unset | .requested | .scheduled | .delayed | .running | .pausing | .paused | .resuming
  | .canceling | .canceled | .succeeded | .failed => true
  | _ => false

/-- **C15**: in every status a workflow can be in, the workflow machine accepts every task status
    the task machine can produce (with or without remediation, other active tasks, any outcome
    context): reporting a task never raises `InvalidEvent` or `InvalidWorkflowStatusTransition` -/
theorem C15_task_events_accepted : ∀ (s ev : Status) (rem act : Bool) (oc : Outcome),
    wfReachable s = true → hasTaskEvent ev = true → (wfOnTaskEvent s ev rem act oc).isOk = true := by
  -- each hypothesis directly after its variable: a false one then cuts off the evaluation below it
  intro s ev rem act oc hs hev
  revert s hs ev hev rem act oc
  decide +kernel

/-- **C01/C03/C18**: every status with which the task machine lets an execution begin (moves a record
    out of `unset`) is a *starting* status, which is what makes `update_task_state` open a new record
    when a completed task is entered again (next loop iteration, rerun) instead of applying the
    event to the finished record -/
theorem C03_fresh_start_statuses : ∀ (ev : Status),
    (tkOnActionEvent .unset ev).all? (fun s' => s' == .unset || ev.isStarting) = true := by
  decide +kernel

/-- the same for item events -/
theorem C03_fresh_start_statuses_item : ∀ (ev : Status) (a p c f i : Bool),
    (tkOnItemEvent .unset ev a p c f i).all? (fun s' => s' == .unset || ev.isStarting) = true := by
  decide +kernel

/-- **C10** (table): a request for `canceling`/`canceled`, from any status and whatever the state
    queries answer, leaves the status alone or moves it to `canceling`/`canceled`, and a status it
    moves to never triggers the unreachable-join check -/
theorem tbl_cancel_request_never_fails : ∀ (s req : Status) (a st p : Bool) (s' : Status),
    (req = .canceling ∨ req = .canceled) → wfOnWorkflowEvent s req a st p = .ok s' →
      (s' = s ∨ s' = .canceling ∨ s' = .canceled) ∧ (s' ≠ s → wfReqUnreachCheck s' = false) := by
  intro s req a st p s' hreq
  revert s a st p s'
  rcases hreq with rfl | rfl <;> decide +kernel

/-- **C10** (table): while the workflow is `canceling`/`canceled`, no task report — whatever the
    outcome — moves it anywhere else, and the unreachable-join check does not apply -/
theorem tbl_canceling_reports_never_fail : ∀ (s ev : Status) (rem act : Bool) (oc : Outcome) (s' : Status),
    (s = .canceling ∨ s = .canceled) → wfOnTaskEvent s ev rem act oc = .ok s' →
      (s' = .canceling ∨ s' = .canceled) ∧ wfUnreachCheck s' = false := by
  intro s ev rem act oc s' hs
  revert ev rem act oc s'
  rcases hs with rfl | rfl <;> decide +kernel

theorem wfProcessWorkflowEvent_cancel (s0 req : Status) (hreq : req = .canceling ∨ req = .canceled) (c : Cond)
    (hs : c.st.status = s0 ∨ c.st.status = .canceling ∨ c.st.status = .canceled) :
    (wfProcessWorkflowEvent req c).2.st.status = s0 ∨ (wfProcessWorkflowEvent req c).2.st.status = .canceling ∨
    (wfProcessWorkflowEvent req c).2.st.status = .canceled := by
  rw [wfProcessWorkflowEvent_eq]
  cases hw : wfOnWorkflowEvent c.st.status req c.st.hasActive c.st.hasStaged c.st.hasPaused with
  | raise e => exact hs
  | ok s' =>
    obtain ⟨h1, h2⟩ := tbl_cancel_request_never_fails _ _ _ _ _ _ hreq hw
    rcases wfAnswer_status s' wfReqUnreachCheck c with e | ⟨_, hne, hc⟩
    · rw [e]
      exact h1.elim (fun h => h ▸ hs) .inr
    · rw [h2 hne] at hc
      cases hc

/-- **C10**: a cancellation request (`canceling` or `canceled`), on any state — whatever is
    staged, in flight, paused, half-way through a join — leaves the workflow status as it was or
    moves it to `canceling`/`canceled`; it never fails the workflow through the unreachable-join
    check (whether the call returns or raises) -/
theorem C10_cancel_request_never_fails (req : Status) (hreq : req = .canceling ∨ req = .canceled) (c : Cond) :
    (requestStatus req c).2.st.status = c.st.status ∨ (requestStatus req c).2.st.status = .canceling ∨
    (requestStatus req c).2.st.status = .canceled := by
  refine ((requestStatus_writes req).run c).inv
    (I := fun c' => c'.st.status = c.st.status ∨ c'.st.status = .canceling ∨ c'.st.status = .canceled)
    (fun c' w hw hI => ?_) (Or.inl rfl)
  cases w with
  | wfReq r => cases hw; exact wfProcessWorkflowEvent_cancel _ _ hreq c' hI
  | tkReq i r => exact (Write.status_eq (w := .tkReq i r) trivial c').symm ▸ hI
  | _ => exact hw.elim

/-- what `wfProcessTaskEvent` leaves as the status is the table's answer for the summary of the
    state queries, or `failed` when the unreachable-join check applied -/
theorem wfProcessTaskEvent_status_cases (k : TaskKey) (ev : Status) (c : Cond) :
    (wfProcessTaskEvent k ev c).2.st.status = c.st.status ∨
    (∃ rem oc s', wfOnTaskEvent c.st.status ev rem c.st.hasActive oc = .ok s' ∧
        oc = (taskEventSummary ev (hasNext c k false) (hasNext c k true) c.st.hasActive c.st.hasCanceling c.st.hasCanceled
          c.st.hasPausing c.st.hasPaused c.st.hasStaged).2.2 ∧
        ((wfProcessTaskEvent k ev c).2.st.status = s' ∨
         ((wfProcessTaskEvent k ev c).2.st.status = .failed ∧ s' ≠ c.st.status ∧ wfUnreachCheck s' = true))) := by
  rw [wfProcessTaskEvent_eq]
  cases hw : taskAnswer k ev c with
  | raise e => exact .inl rfl
  | ok s' => exact .inr ⟨_, _, s', hw, rfl, wfAnswer_status s' _ c⟩

/-- **C10**: while the workflow is `canceling` or `canceled`, the workflow machine's answer to any
    task report keeps it there -/
theorem C10_reports_keep_canceling (k : TaskKey) (ev : Status) (c : Cond)
    (h : c.st.status = .canceling ∨ c.st.status = .canceled) :
    (wfProcessTaskEvent k ev c).2.st.status = .canceling ∨ (wfProcessTaskEvent k ev c).2.st.status = .canceled := by
  rcases wfProcessTaskEvent_status_cases k ev c with h0 | ⟨_, _, s', hw, _, hres⟩
  · rw [h0]; exact h
  · obtain ⟨h1, h2⟩ := tbl_canceling_reports_never_fail _ _ _ _ _ _ h hw
    rcases hres with e | ⟨_, _, hc⟩
    · rw [e]; exact h1
    · rw [h2] at hc
      cases hc

/-- the summary of the state queries is `completed` only when nothing is staged, no task is canceling,
    canceled, pausing or paused, and the reporting task has no next task: the three tests before it failed -/
theorem taskEventSummary_completed {ev : Status} {bn nx act cg cd pg pd st : Bool}
    (h : (taskEventSummary ev bn nx act cg cd pg pd st).2.2 = .completed) :
    st = false ∧ cg = false ∧ cd = false ∧ pg = false ∧ pd = false ∧ nx = false := by
  unfold taskEventSummary at h
  dsimp only at h
  split at h
  · cases h
  · split at h
    · cases h
    · split at h
      · cases h
      · rename_i h1 h2 h3
        rw [Bool.or_eq_true, not_or, Bool.not_eq_true, Bool.not_eq_true] at h1 h2 h3
        exact ⟨h3.1, h1.1, h1.2, h2.1, h2.2, h3.2⟩

/-- **C02**: when a task report takes the workflow to `succeeded`, then at that moment no task is
    active, nothing is staged ready, no task is pausing, paused, pending, canceling or canceled,
    and the reporting task has no next task — for every state and every report -/
theorem C02_success_door (k : TaskKey) (ev : Status) (c : Cond)
    (h : (wfProcessTaskEvent k ev c).2.st.status = .succeeded) (hne : c.st.status ≠ .succeeded) :
    c.st.hasActive = false ∧ c.st.hasStaged = false ∧ c.st.hasCanceling = false ∧ c.st.hasCanceled = false ∧
    c.st.hasPausing = false ∧ c.st.hasPaused = false ∧ hasNext c k true = false := by
  rcases wfProcessTaskEvent_status_cases k ev c with h0 | ⟨rem, oc, s', hw, hoc, hres⟩
  · rw [h] at h0; exact absurd h0.symm hne
  · have hs' : s' = .succeeded := by
      rcases hres with h1 | ⟨h1, _, _⟩
      · rw [h] at h1; exact h1.symm
      · rw [h] at h1; cases h1
    subst hs'
    obtain ⟨hact, hcomp, _⟩ := tbl_succeeded_doors_task _ _ _ _ _ hw hne
    exact ⟨hact, taskEventSummary_completed (hoc.symm.trans hcomp)⟩

/-- **C02/C09/C10**: when a task report brings the workflow to rest `paused` or `canceled`, no task
    is active at that moment -/
theorem C02_dormant_door (k : TaskKey) (ev : Status) (c : Cond)
    (h : (wfProcessTaskEvent k ev c).2.st.status = .paused ∨ (wfProcessTaskEvent k ev c).2.st.status = .canceled)
    (hne : (wfProcessTaskEvent k ev c).2.st.status ≠ c.st.status) : c.st.hasActive = false := by
  rcases wfProcessTaskEvent_status_cases k ev c with h0 | ⟨rem, oc, s', hw, _, hres⟩
  · exact absurd h0 hne
  · rcases hres with h1 | ⟨h1, _, _⟩
    · rw [h1] at h hne
      exact tbl_dormant_doors_task _ _ _ _ _ _ hw hne h
    · rw [h1] at h
      rcases h with h | h <;> cases h

/-- **C03**: when a task reports a completion (succeeded, failed, canceled) to a running or
    resuming workflow in which no task is active, nothing is staged ready and the reporting task
    has no next task, the workflow machine does not leave the workflow running: it comes to rest
    (succeeded, failed, canceled or paused) — for every state, on the implementation's own queries -/
theorem C03_quiescent_report_rests (k : TaskKey) (ev : Status) (c : Cond)
    (hs : c.st.status = .running ∨ c.st.status = .resuming)
    (hev : ev = .succeeded ∨ ev = .failed ∨ ev = .canceled)
    (hact : c.st.hasActive = false) (hst : c.st.hasStaged = false) (hnx : hasNext c k true = false) :
    resting (wfProcessTaskEvent k ev c).2.st.status = true := by
  rw [wfProcessTaskEvent_eq]
  unfold taskAnswer taskEventSummary
  dsimp only
  rw [hact, hst, hnx]
  generalize (ev.isAbended && _) = rem
  generalize hoc : (if (c.st.hasCanceling || c.st.hasCanceled) = true then Outcome.canceled else _) = oc
  replace hoc : (oc == Outcome.incomplete) = false := by
    rw [← hoc]
    repeat' (first | rfl | split)
  have hs' : (c.st.status == .running || c.st.status == .resuming) = true := by rcases hs with h | h <;> rw [h] <;> rfl
  have htbl := tbl_quiescent_resolves c.st.status ev rem oc hs' (by rcases hev with h | h | h <;> rw [h] <;> rfl)
  have hacc := C15_task_events_accepted c.st.status ev rem false oc
    (by rcases hs with h | h <;> rw [h] <;> rfl) (by rcases hev with h | h | h <;> rw [h] <;> rfl)
  cases hw : wfOnTaskEvent c.st.status ev rem false oc with
  | raise e =>
    rw [hw] at hacc
    cases hacc
  | ok s' =>
    rcases wfAnswer_status s' wfUnreachCheck c with e | ⟨e, _, _⟩ <;> rw [e]
    · have := StepRes.all?_ok htbl hw
      rw [hoc] at this
      simpa only [Bool.or_false] using this
    · rfl

/-- **C09/C03** (table, true since fix D28): a resume request — `running` or `resuming` — takes a
    task that is `pausing` (a with-items task whose items were in flight when the pause was
    requested) back to `running`, whatever its items are doing; the task is not left pausing
    behind a workflow that has resumed -/
theorem tbl_resume_unpauses_pausing_task : ∀ (req : Status) (hasItems active incomplete : Bool),
    (req = .running ∨ req = .resuming) →
    -- the combinations of the three item flags that a state can produce
    (hasItems = false → active = false ∧ incomplete = false) → (active = true → incomplete = true) →
      tkOnWorkflowEvent .pausing req hasItems active incomplete = .ok .running := by
  decide +kernel

end Orq
