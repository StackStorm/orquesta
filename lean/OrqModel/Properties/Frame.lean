/-
C09 / C10: control requests change statuses and nothing else; C04 / C10 along histories: nothing
is offered once the workflow is terminal or canceled; C17: a rerun request keeps the history.
-/
import OrqModel.Proofs.Frames
import OrqModel.Proofs.Steps
import OrqModel.Properties.Status
import OrqModel.Properties.Next

namespace Orq

/-- **C09/C10**: a status request — pause, resume, cancel or any other, accepted or rejected —
    leaves the definition, graph, output, context snapshots, routes, staged entries, task-key map,
    rerun log and publication log exactly as they were, and changes no field of any task record
    other than its status -/
theorem C09_request_touches_only_statuses (req : Status) (c : Cond) : Frame c (requestStatus req c).2 :=
  (requestStatus_fr req).run c

/-- **C09**: any sequence of status requests (pause then resume, …) with no report in between -/
theorem C09_requests_touch_only_statuses (reqs : List Status) (c : Cond) :
    Frame c (reqs.foldl (fun c r => (requestStatus r c).2) c) := by
  induction reqs generalizing c with
  | nil => exact frPre.refl c
  | cons r rs ih => exact frPre.trans (C09_request_touches_only_statuses r c) (ih _)

/-- in particular the decisions, context lists and predecessors of every record survive -/
theorem C09_request_keeps_record_data (req : Status) (c : Cond) (i : Nat) (r : Rec)
    (h : c.st.sequence[i]? = some r) :
    ∃ r', (requestStatus req c).2.st.sequence[i]? = some r' ∧ r'.next = r.next ∧ r'.ctxsIn = r.ctxsIn ∧
      r'.ctxsOut = r.ctxsOut ∧ r'.prev = r.prev ∧ r'.id = r.id ∧ r'.route = r.route ∧ r'.term = r.term ∧
      r'.retry = r.retry := by
  have hmap := congrArg (·[i]?) (C09_request_touches_only_statuses req c).records
  simp only [List.getElem?_map, h, Option.map_some] at hmap
  obtain ⟨r', hr', hn⟩ := Option.map_eq_some_iff.mp hmap
  -- `noStatus` leaves every other field alone, so each is read off `hn`
  exact ⟨r', hr', (congrArg Rec.next hn :), (congrArg Rec.ctxsIn hn :), (congrArg Rec.ctxsOut hn :), (congrArg Rec.prev hn :),
    (congrArg Rec.id hn :), (congrArg Rec.route hn :), (congrArg Rec.term hn :), (congrArg Rec.retry hn :)⟩

/-- outside the running statuses the query offers nothing, except, in a failed workflow, the
    clean-up tasks flagged run-on-fail -/
theorem offers_when_not_running (E : Evaluator) (c c' : Cond) (offers : List Offer)
    (hs : c.st.status.isRunning = false) (h : getNextTasks E c = (.ok offers, c')) :
    offers = [] ∨ (c.st.status = .failed ∧
      ∀ o ∈ offers, ∃ sx ∈ c.st.readyStaged, sx.id = o.id ∧ sx.route = o.route ∧ sx.runOnFail = true) := by
  by_cases hf : c.st.status = .failed
  · exact .inr ⟨hf, C04_failed_offers_only_run_on_fail E c offers c' hf h⟩
  · rw [next_gate E c hs (.inl hf)] at h
    cases h
    exact .inl rfl

/-- **C10**, along every rerun-free history after a cancellation took hold: whatever is reported,
    requested, queried or rendered afterwards, the conductor offers nothing — except, once the
    workflow has turned `failed` (a runtime error while canceling), the clean-up tasks flagged
    run-on-fail -/
theorem C10_history_no_offer_after_cancel (E : Evaluator) (ops : List Op) (hops : ∀ op ∈ ops, op.isRerun = false)
    (c : Cond) (hc : c.st.status = .canceling ∨ c.st.status = .canceled) (offers : List Offer) (c' : Cond)
    (h : getNextTasks E (runOps E ops c) = (.ok offers, c')) :
    offers = [] ∨ ((runOps E ops c).st.status = .failed ∧
      ∀ o ∈ offers, ∃ sx ∈ (runOps E ops c).st.readyStaged, sx.id = o.id ∧ sx.route = o.route ∧ sx.runOnFail = true) := by
  have hfam := C10_cancel_family_closed E ops hops c (by rcases hc with hc | hc <;> rw [hc] <;> decide)
  refine offers_when_not_running E _ c' offers ?_ h
  revert hfam
  cases (runOps E ops c).st.status <;> decide

/-- **C04**, along every rerun-free history from a terminal workflow (failed, canceled or
    succeeded): whatever is reported, requested, queried or rendered afterwards, the conductor
    offers nothing — except, while the workflow is `failed`, the clean-up tasks flagged run-on-fail -/
theorem C04_history_no_offer_after_terminal (E : Evaluator) (ops : List Op) (hops : ∀ op ∈ ops, op.isRerun = false)
    (c : Cond) (hc : c.st.status = .failed ∨ c.st.status = .canceled ∨ c.st.status = .succeeded)
    (offers : List Offer) (c' : Cond) (h : getNextTasks E (runOps E ops c) = (.ok offers, c')) :
    offers = [] ∨ ((runOps E ops c).st.status = .failed ∧
      ∀ o ∈ offers, ∃ sx ∈ (runOps E ops c).st.readyStaged, sx.id = o.id ∧ sx.route = o.route ∧ sx.runOnFail = true) := by
  refine offers_when_not_running E _ c' offers ?_ h
  rcases hc with hc | hc | hc
  · rw [C04_failed_final E ops hops c hc]; rfl
  · rw [C04_canceled_final E ops hops c hc]; rfl
  · rcases C04_succeeded_final E ops hops c hc with h1 | h1 <;> rw [h1] <;> rfl

/-- **C17**: a rerun request — accepted or rejected, whatever it names — publishes nothing, routes
    nothing and records no decision: the context snapshots, the routes and the publication log are
    exactly what they were, and every existing record keeps its identity, route, context list,
    predecessors and decisions (what is re-executed gets *new* records) -/
theorem C17_rerun_keeps_history (E : Evaluator) (reqs : List RerunReq) (c : Cond) :
    (requestRerun E reqs c).2.st.contexts = c.st.contexts ∧ (requestRerun E reqs c).2.st.routes = c.st.routes ∧
    (requestRerun E reqs c).2.st.pubLog = c.st.pubLog ∧
    ∀ (i : Nat) (r : Rec), c.st.sequence[i]? = some r →
      ∃ r', (requestRerun E reqs c).2.st.sequence[i]? = some r' ∧ r'.core = r.core ∧ r'.next = r.next := by
  have hcr := (requestRerun_cr E reqs).run c
  have hlog := (Rel.log_of_run (requestRerun_writes E reqs) fun _ _ _ _ h => h).run c
  have hext := (requestRerun_writes E reqs).ext_of_run.run c
  have hnx := ((requestRerun_writes E reqs).of_run (P := nxaPre) fun c w hw =>
    Write.nxAll (by rintro i tid b rfl; exact hw)).run c
  refine ⟨hcr.1, hcr.2, hlog, ?_⟩
  intro i r hr
  obtain ⟨r', hr', hc⟩ := hext.getElem_core hr
  obtain ⟨r'', hr'', hn⟩ := hnx.keep i r hr
  rw [hr'] at hr''
  cases hr''
  exact ⟨r', hr', hc, hn⟩

end Orq
