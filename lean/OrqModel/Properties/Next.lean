/-
Property theorems about `get_next_tasks` and `request_workflow_status` on the model, for every
definition, state and evaluator — clauses of C01, C04, C08, C09, C10, C19.
-/
import OrqModel.Proofs.NextRun

namespace Orq

variable (E : Evaluator)

/-- the gate of `get_next_tasks`: unless the workflow is in a running status, or has failed and a
    clean-up task was staged beside a fail command, nothing is offered and the state is untouched -/
theorem nextTodo_gate (st : WState) (h1 : st.status.isRunning = false)
    (h2 : st.status ≠ .failed ∨ (st.readyStaged.filter (·.runOnFail)).isEmpty = true) :
    nextTodo st = [] := by
  rw [nextTodo_eq, h1, if_neg Bool.false_ne_true]
  rcases h2 with h | h
  · exact if_neg h
  · rw [List.isEmpty_iff.mp h, ite_self]

theorem nextFrom_nil (c : Cond) : nextFrom E [] c = (.ok [], c) := rfl

theorem next_gate (c : Cond) (h1 : c.st.status.isRunning = false)
    (h2 : c.st.status ≠ .failed ∨ (c.st.readyStaged.filter (·.runOnFail)).isEmpty = true) :
    getNextTasks E c = (.ok [], c) := by
  unfold getNextTasks
  rw [nextTodo_gate c.st h1 h2]
  rfl

/-- **C09**: while pausing or paused no task or item is offered, and asking changes nothing -/
theorem C09_no_offer_while_pausing_or_paused (c : Cond)
    (h : c.st.status = .pausing ∨ c.st.status = .paused) : getNextTasks E c = (.ok [], c) := by
  rcases h with h | h <;> exact next_gate E c (h ▸ rfl) (.inl (h ▸ by decide))

/-- **C10**: after cancellation nothing is offered -/
theorem C10_no_offer_after_cancel (c : Cond)
    (h : c.st.status = .canceling ∨ c.st.status = .canceled) : getNextTasks E c = (.ok [], c) := by
  rcases h with h | h <;> exact next_gate E c (h ▸ rfl) (.inl (h ▸ by decide))

/-- **C04**: a succeeded or canceled workflow offers nothing -/
theorem C04_no_offer_when_succeeded_or_canceled (c : Cond)
    (h : c.st.status = .succeeded ∨ c.st.status = .canceled) : getNextTasks E c = (.ok [], c) := by
  rcases h with h | h <;> exact next_gate E c (h ▸ rfl) (.inl (h ▸ by decide))

/-- **C01/C19**: outside the running statuses (and without clean-up tasks of a failed workflow)
    asking for next tasks is a pure query returning nothing -/
theorem C01_no_offer_unless_running_or_remediation (c : Cond) (h1 : c.st.status.isRunning = false)
    (h2 : (c.st.readyStaged.filter (·.runOnFail)).isEmpty = true) :
    getNextTasks E c = (.ok [], c) := next_gate E c h1 (Or.inr h2)

theorem C19_next_no_status_change_when_not_running (c : Cond) (h1 : c.st.status.isRunning = false)
    (h2 : c.st.status ≠ .failed) : (getNextTasks E c).2 = c := by
  rw [next_gate E c h1 (Or.inl h2)]

theorem nextTodo_sub (st : WState) :
    ∀ sx ∈ nextTodo st, sx ∈ st.readyStaged ∧ (st.status = .failed → sx.runOnFail = true) := by
  intro sx hsx
  rw [nextTodo_eq] at hsx
  split at hsx
  · next hr => exact ⟨hsx, fun h => by rw [h] at hr; cases hr⟩
  · split at hsx
    · exact ⟨(List.mem_filter.mp hsx).1, fun _ => (List.mem_filter.mp hsx).2⟩
    · cases hsx

/-- **C01/C07**: every task offered by `get_next_tasks` is a ready, not-completed staged entry of
    the state it was asked in; in a failed workflow it is moreover flagged run-on-fail. -/
theorem C01_offer_from_staged (c : Cond) (offers : List Offer) (c' : Cond)
    (h : getNextTasks E c = (.ok offers, c')) :
    ∀ o ∈ offers, ∃ sx ∈ c.st.readyStaged, sx.id = o.id ∧ sx.route = o.route ∧
      (c.st.status = .failed → sx.runOnFail = true) := by
  intro o ho
  obtain ⟨sx, hsx, h1, h2, -⟩ := nextFrom_delay E _ c c' offers h o ho
  exact ⟨sx, (nextTodo_sub c.st sx hsx).1, h1, h2, (nextTodo_sub c.st sx hsx).2⟩

theorem offer_entry (c : Cond) (offers : List Offer) (c' : Cond) (h : getNextTasks E c = (.ok offers, c')) :
    ∀ o ∈ offers, ∃ sx ∈ c.st.staged, sx.id = o.id ∧ sx.route = o.route ∧ sx.ready = true ∧ sx.completed = false := by
  intro o ho
  obtain ⟨sx, hsx, h1, h2, -⟩ := C01_offer_from_staged E c offers c' h o ho
  exact ⟨sx, (WState.mem_readyStaged.mp hsx).1, h1, h2, (WState.mem_readyStaged.mp hsx).2⟩

/-- **C04**: the only tasks a failed workflow offers are the clean-up tasks staged beside a fail
    command (flagged run-on-fail) -/
theorem C04_failed_offers_only_run_on_fail (c : Cond) (offers : List Offer) (c' : Cond)
    (hs : c.st.status = .failed) (h : getNextTasks E c = (.ok offers, c')) :
    ∀ o ∈ offers, ∃ sx ∈ c.st.readyStaged, sx.id = o.id ∧ sx.route = o.route ∧ sx.runOnFail = true := by
  intro o ho
  obtain ⟨sx, h1, h2, h3, h4⟩ := C01_offer_from_staged E c offers c' h o ho
  exact ⟨sx, h1, h2, h3, h4 hs⟩

/-- the order offers are returned in: by task id, then by route -/
def offerLe (a b : Offer) : Prop := a.id < b.id ∨ (a.id = b.id ∧ a.route ≤ b.route)

theorem offerLe_trans {a b c : Offer} (h1 : offerLe a b) (h2 : offerLe b c) : offerLe a c := by
  rcases h1 with h1 | ⟨h1, h1'⟩ <;> rcases h2 with h2 | ⟨h2, h2'⟩
  · exact Or.inl (String.lt_trans h1 h2)
  · exact Or.inl (h2 ▸ h1)
  · exact Or.inl (h1 ▸ h2)
  · exact Or.inr ⟨h1.trans h2, Nat.le_trans h1' h2'⟩

theorem offerLe_of_not_lt {x y : Offer}
    (h : ¬ ((decide (x.id < y.id) || (x.id == y.id && decide (x.route < y.route))) = true)) : offerLe y x := by
  simp only [Bool.or_eq_true, decide_eq_true_eq, Bool.and_eq_true, beq_iff_eq, not_or, not_and, Nat.not_lt] at h
  obtain ⟨h1, h2⟩ := h
  by_cases heq : x.id = y.id
  · exact Or.inr ⟨heq.symm, h2 heq⟩
  · exact .inl (Decidable.not_not.mp fun hlt => heq (String.le_antisymm (String.not_lt.mp hlt) (String.not_lt.mp h1)))

theorem insOffer_sorted (x : Offer) (l : List Offer) (h : l.Pairwise offerLe) : (insOffer x l).Pairwise offerLe := by
  induction l with
  | nil => simp [insOffer]
  | cons y ys ih =>
    unfold insOffer
    have hy := List.pairwise_cons.mp h
    split
    · next hlt =>
      apply List.pairwise_cons.mpr
      refine ⟨?_, h⟩
      have hxy : offerLe x y := by
        simp only [Bool.or_eq_true, decide_eq_true_eq, Bool.and_eq_true, beq_iff_eq] at hlt
        rcases hlt with hlt | ⟨h1, h2⟩
        · exact Or.inl hlt
        · exact Or.inr ⟨h1, Nat.le_of_lt h2⟩
      intro z hz
      rcases List.mem_cons.mp hz with hz | hz
      · subst hz; exact hxy
      · exact offerLe_trans hxy (hy.1 z hz)
    · next hnlt =>
      apply List.pairwise_cons.mpr
      refine ⟨?_, ih hy.2⟩
      intro z hz
      rcases (mem_insOffer x ys z).mp hz with hz | hz
      · subst hz; exact offerLe_of_not_lt hnlt
      · exact hy.1 z hz

/-- **C08/C19**: whatever order the staged entries are in, the offers come back sorted by task id
    and route -/
theorem C08_offers_sorted (l : List Offer) : (sortOffers l).Pairwise offerLe := by
  unfold sortOffers
  suffices h : ∀ acc : List Offer, acc.Pairwise offerLe →
      (l.foldl (fun acc x => insOffer x acc) acc).Pairwise offerLe from h [] List.Pairwise.nil
  induction l with
  | nil => intro acc h; exact h
  | cons x xs ih => intro acc h; exact ih _ (insOffer_sorted x acc h)

/-- **C04**: a status request the lifecycle forbids is rejected before anything is touched -/
theorem C04_rejected_request_no_effect (c : Cond) (req : Status)
    (h : wfTransitionValid c.st.status req = false) :
    requestStatus req c = (.error .invalidWorkflowStatusTransition, c) := by
  unfold requestStatus
  rw [M.get_bind]
  simp only [h, Bool.not_false, ↓reduceIte]
  rfl

/-- the status requests a provider issues -/
def providerRequest : Status → Bool
  | .running | .pausing | .paused | .resuming | .canceling | .canceled => true
  | _ => false

/-- when the lifecycle allows a provider's request by value but the contextualised event has no
    entry (so the request is rejected only after the event was pushed to the tasks), the workflow
    has not started running yet, or is paused (no active task: C02), or has no active task — there
    is nothing the push could have changed.  (The two tolerated repeats, `paused` while pausing and
    `canceled` while canceling, are not rejected at all.) -/
theorem tbl_valid_request_applies : ∀ (s req : Status) (a st p : Bool),
    providerRequest req = true →
    wfTransitionValid s req = true → req ≠ s → wfOnWorkflowEvent s req a st p = .ok s →
      (s = .requested ∨ s = .scheduled ∨ s = .delayed ∨ s = .paused) ∨ (s = .pausing ∧ req = .paused) ∨
      (s = .canceling ∧ req = .canceled) ∨ a = false := by
  decide +kernel

end Orq
