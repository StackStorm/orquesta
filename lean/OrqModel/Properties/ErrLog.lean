/-
C11: recorded errors stay recorded.
-/
import OrqModel.Proofs.Frames

namespace Orq

variable (E : Evaluator)

/-- **C11**: along every rerun-free history (any definition, evaluator, order and outcome of
    reports, pause/cancel requests, failing expressions anywhere) the conductor's error log only
    grows: every entry recorded so far stays in place, in order; calls only append.  (A rerun
    deliberately clears the entries of the tasks it re-executes.) -/
theorem C11_errors_persist (ops : List Op) (hops : ∀ op ∈ ops, op.isRerun = false) (c : Cond) :
    c.errors <+: (runOps E ops c).errors :=
  (runOps_run E ops (fun op hop _ _ => Op.writes_keepsErrors E (hops op hop)) c).rel (P := errPre) Write.err

end Orq
