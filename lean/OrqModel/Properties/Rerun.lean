/-
C17: admission of rerun requests on the model, and which records the status flags the admission
reads are computed from (the current execution of each task only).
-/
import OrqModel.Proofs.Post
import OrqModel.Proofs.StepRes

namespace Orq

variable (E : Evaluator)

/-- **C17**: a rerun is rejected for a workflow that has not completed, and nothing changes -/
theorem C17_reject_active (reqs : List RerunReq) (c : Cond) (h : c.st.status.isCompleted = false) :
    requestRerun E reqs c = (.error .workflowIsActiveAndNotRerunable, c) := by
  unfold requestRerun
  rw [M.get_bind]
  simp only [h, Bool.not_false, ↓reduceIte]
  rfl

/-- **C17**: a rerun naming a task execution that does not exist is rejected before anything is
    touched -/
theorem C17_reject_unknown (reqs : List RerunReq) (c : Cond) (h : c.st.status.isCompleted = true)
    (hu : (dedupKeys reqs).any (fun t => (c.st.taskIdx? (t.taskId, t.route)).isNone) = true) :
    requestRerun E reqs c = (.error .invalidTaskRerunRequest, c) := by
  unfold requestRerun
  rw [M.get_bind]
  simp only [h, Bool.not_true, Bool.false_eq_true, ↓reduceIte, hu]
  rfl

/-- **C17**: an accepted rerun leaves the workflow `resuming` -/
theorem C17_accepted_resuming (reqs : List RerunReq) :
    PostS (requestRerun E reqs) (fun c => c.st.status = .resuming) := by
  unfold requestRerun
  apply PostS.bind; intro c
  split
  · exact PostS.throw _
  · dsimp only
    split
    · exact PostS.throw _
    · repeat' (first
        | (apply PostS.bind; intro _)
        | (apply PostS.modifySt; intro c; rfl))

/-- the status set by an accepted rerun is the only exit from a terminal status besides
    `succeeded → failed` (compare C04): a rerun is the one operation outside the status automaton -/
theorem C17_only_completed_accepted (reqs : List RerunReq) (c c' : Cond)
    (h : requestRerun E reqs c = (.ok (), c')) : c.st.status.isCompleted = true := by
  cases hc : c.st.status.isCompleted with
  | true => rfl
  | false => rw [C17_reject_active E reqs c hc] at h; cases h

/-- **C17/C02**: the flags the workflow status is computed from (`has_active_tasks`,
    `has_canceled_tasks`, ...) count only the *current* record of each task execution key: a record
    superseded by a rerun or a later loop iteration has no say -/
theorem C17_only_current_records_counted (s : WState) (p : Status → Bool) (i : Nat)
    (h : i ∈ s.idxByStatus p) :
    (∃ k, (k, i) ∈ s.tasks) ∧ ∃ r x, s.sequence[i]? = some r ∧ r.status = some x ∧ p x = true := by
  unfold WState.idxByStatus at h
  obtain ⟨⟨r, j⟩, hm, rfl⟩ := List.mem_map.mp h
  obtain ⟨hz, hf⟩ := List.mem_filter.mp hm
  obtain ⟨hp, hl⟩ := Bool.and_eq_true_iff.mp hf
  obtain ⟨q, hq, he⟩ := List.any_eq_true.mp hl
  refine ⟨⟨q.1, eq_of_beq he ▸ hq⟩, r, ?_⟩
  cases hs : r.status with
  | none => rw [hs] at hp; cases hp
  | some x => rw [hs] at hp; exact ⟨x, List.mem_zipIdx_iff_getElem?.mp hz, rfl, hp⟩

theorem C17_canceled_needs_current_canceled (s : WState) (h : s.hasCanceled = true) :
    ∃ k i r, (k, i) ∈ s.tasks ∧ s.sequence[i]? = some r ∧ r.status = some .canceled := by
  unfold WState.hasCanceled at h
  cases hl : s.idxByStatus (· == .canceled) with
  | nil => rw [hl] at h; cases h
  | cons i rest =>
    obtain ⟨⟨k, hk⟩, r, x, hr, hs, hx⟩ := C17_only_current_records_counted s (· == .canceled) i (by rw [hl]; exact List.mem_cons_self)
    exact ⟨k, i, r, hk, hr, hs.trans (congrArg some (eq_of_beq hx))⟩

end Orq
