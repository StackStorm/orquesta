/-
C07 (join barriers), C06 (published deltas), C19 (independence of set iteration order at the
barrier computation).
-/
import OrqModel.Proofs.StatusTrace
import OrqModel.Proofs.Monad
import OrqModel.Properties.Values

namespace Orq

/-- an inbound task counts as satisfied on route `r` when its latest record on that route has a
    true decision for some transition into `t` -/
def srcSatisfied (c : Cond) (t : String) (r : Nat) (src : String) : Bool :=
  match c.st.getRec? (src, r) with
  | none => false
  | some rc =>
    ((c.graph.prevTransitions t).filter (·.src == src)).any fun e =>
      (rc.next.find? (fun p => p.1 == (t, e.key))).any (·.2)

def inboundTasks (c : Cond) (t : String) : List String :=
  distinctStrs ((c.graph.prevTransitions t).map (·.src))

def satisfiedCount (c : Cond) (t : String) (r : Nat) : Nat :=
  ((inboundTasks c t).filter (srcSatisfied c t r)).length

/-- all inbound tasks for `join: all`, the given count for `join: N`, one for a task without join -/
def requirement (c : Cond) (t : String) : Nat := barrierRequirement c t (inboundTasks c t).length

theorem evalSrc_true_iff (c : Cond) (t : String) (r : Nat) (src : String) :
    (evalSrc c t r src == some true) = srcSatisfied c t r src := by
  unfold evalSrc srcSatisfied
  cases c.st.getRec? (src, r) with
  | none => rfl
  | some rc =>
    simp only
    cases (((c.graph.prevTransitions t).filter (·.src == src)).any fun e =>
          (rc.next.find? (fun p => p.1 == (t, e.key))).any (·.2)) <;> rfl

theorem filter_map_some_true {α} (l : List α) (f : α → Option Bool) (g : α → Bool)
    (h : ∀ a, (f a == some true) = g a) :
    ((l.map f).filter (· == some true)).length = (l.filter g).length := by
  rw [List.filter_map, List.length_map]
  exact congrArg (fun p => (l.filter p).length) (funext h)

/-- **C07**: a join's inbound criteria are `satisfied` exactly when the number of distinct
    inbound tasks with a satisfied transition into it on the same route reaches the requirement
    (all of them for `join: all`, the given count for `join: N`) -/
theorem C07_barrier_requirement (c : Cond) (t : String) (r : Nat) :
    inboundStatus c t r = .satisfied ↔ satisfiedCount c t r ≥ requirement c t := by
  unfold inboundStatus inboundStatusWith satisfiedCount requirement inboundTasks
  simp only []
  rw [filter_map_some_true _ _ _ (evalSrc_true_iff c t r)]
  constructor
  · intro h
    split at h
    · assumption
    · split at h <;> cases h
  · intro h
    rw [if_pos h]

/-- **C07**: the staged entry of a task is offered only when ready (C01_offer_from_staged), and
    its ready flag is the barrier evaluation: here the flag `stageNext` writes -/
def readyFlag (c : Cond) (t : String) (r : Nat) : Bool := inboundStatus c t r == .satisfied

theorem C07_ready_iff_satisfied (c : Cond) (t : String) (r : Nat) :
    readyFlag c t r = true ↔ satisfiedCount c t r ≥ requirement c t := by
  unfold readyFlag
  rw [← C07_barrier_requirement]
  exact beq_iff_eq

/-- **C07**: when a task event completes the workflow while a barrier can no longer be satisfied,
    the workflow is failed instead -/
theorem C07_unreachable_fails (c : Cond) (k : TaskKey) (ev : Status) (s' : Status)
    (h : wfOnTaskEvent c.st.status ev
      (taskEventSummary ev (hasNext c k false) (hasNext c k true) c.st.hasActive c.st.hasCanceling
        c.st.hasCanceled c.st.hasPausing c.st.hasPaused c.st.hasStaged).1
      (taskEventSummary ev (hasNext c k false) (hasNext c k true) c.st.hasActive c.st.hasCanceling
        c.st.hasCanceled c.st.hasPausing c.st.hasPaused c.st.hasStaged).2.1
      (taskEventSummary ev (hasNext c k false) (hasNext c k true) c.st.hasActive c.st.hasCanceling
        c.st.hasCanceled c.st.hasPausing c.st.hasPaused c.st.hasStaged).2.2 = .ok s')
    (hne : (s' != c.st.status) = true) (hchk : wfUnreachCheck s' = true)
    (hub : (unreachableBarriers { c with st := { c.st with status := s' } }).isEmpty = false) :
    (wfProcessTaskEvent k ev c).2.st.status = .failed := by
  rw [wfProcessTaskEvent_eq, show taskAnswer k ev c = .ok s' from h, wfAnswer_status_eq,
    if_pos ⟨by rw [hne, hchk]; rfl, hub⟩]

/-- the completed statuses that trigger the unreachable-join check: `succeeded` and `failed`, and
    not `canceled` (a canceled workflow is not failed because a join could not run) -/
theorem C07_check_statuses : wfUnreachCheck .succeeded = true ∧ wfUnreachCheck .failed = true ∧
    wfUnreachCheck .canceled = false := by decide

/-- a workflow completed by a status request (a paused workflow with nothing left is resumed)
    goes through the same check -/
theorem C07_resume_checks_unreachable : wfReqUnreachCheck .succeeded = true := by decide

/-- **C19**: the barrier computation does not depend on the order in which the set of inbound task
    names is iterated -/
theorem C19_inbound_status_perm (c : Cond) (t : String) (r : Nat) (l1 l2 : List String) (h : l1.Perm l2) :
    inboundStatusWith c t r l1 = inboundStatusWith c t r l2 := by
  unfold inboundStatusWith
  simp only []
  have hlen : l1.length = l2.length := h.length_eq
  have hmap := h.map (evalSrc c t r)
  have hfl := (hmap.filter (· == some true)).length_eq
  have hany : (l1.map (evalSrc c t r)).any (· == none) = (l2.map (evalSrc c t r)).any (· == none) :=
    hmap.any_eq
  rw [hlen, hfl, hany]

/-- **C06**: the delta appended by a transition contains only the names that transition
    publishes (nothing leaks in from the evaluation context) -/
theorem C06_delta_keys (E : Evaluator) (items : List (String × Expr)) (mk : Val.Dict → EvalCtx)
    (ctx : Val.Dict) :
    ∀ k, Val.dhas (renderSeq E items mk ctx).2.1 k = true → k ∈ items.map (·.1) := by
  unfold renderSeq
  suffices hgen : ∀ (acc : Val.Dict × Val.Dict × Nat) (k : String),
      Val.dhas (items.foldl (fun (acc : Val.Dict × Val.Dict × Nat) (p : String × Expr) =>
        match E.eval p.2 (mk acc.1) with
        | some v => (Val.dset acc.1 p.1 v, Val.dset acc.2.1 p.1 v, acc.2.2)
        | none => (acc.1, acc.2.1, acc.2.2 + 1)) acc).2.1 k = true →
      Val.dhas acc.2.1 k = true ∨ k ∈ items.map (·.1) by
    intro k hk
    rcases hgen (ctx, [], 0) k hk with h | h
    · cases h
    · exact h
  induction items with
  | nil => intro acc k h; exact Or.inl h
  | cons p ps ih =>
    intro acc k h
    simp only [List.foldl_cons] at h
    rcases ih _ k h with h1 | h1
    · split at h1
      · next v hv =>
        by_cases hk : p.1 = k
        · subst hk; exact .inr List.mem_cons_self
        · left
          rwa [Val.dhas, dlookup_dset_other _ _ _ _ hk] at h1
      · exact Or.inl h1
    · exact .inr (List.mem_cons_of_mem _ h1)

/-- **C07**: when the target of a satisfied transition is already staged (another branch arrived
    before), the arrival is merged into that entry: no second entry is staged, so the task is
    offered once for the barrier, not once per arriving branch; only a target that is not staged
    yet gets a new entry -/
theorem C07_arrival_merges (nk : TaskKey) (backref : TransId) (idx : Nat) (outIdxs : List Nat) (c : Cond) :
    (stageTarget nk backref idx outIdxs c).2.st.staged.length =
      if (c.st.getStaged? nk).isSome then c.st.staged.length else c.st.staged.length + 1 := by
  unfold stageTarget
  simp only [bind, M.bind', M.get]
  cases hg : c.st.getStaged? nk with
  | some x0 =>
    simp only [Option.isSome_some, if_true]
    cases he : eraseFirst outIdxs 0 with
    | none => simp only [liftOpt, M.throw, M.bind']
    | some rest =>
      simp only [liftOpt, pure, M.modifySt]
      exact WState.updateStaged_length ..
  | none =>
    simp only [Option.isSome_none, Bool.false_eq_true, if_false, M.modifySt, M.modify]
    exact List.length_append

/-- no two staged entries have the same (task, route) -/
def StagedUnique (st : WState) : Prop :=
  st.staged.Pairwise fun a b => ¬ (a.id = b.id ∧ a.route = b.route)

/-- with unique keys, erasing the first entry of a key leaves none -/
theorem find?_eraseP_of_unique (k : TaskKey) : ∀ (l : List Staged),
    l.Pairwise (fun a b => ¬ (a.id = b.id ∧ a.route = b.route)) → (l.eraseP (matchesKey k)).find? (matchesKey k) = none := by
  intro l
  induction l with
  | nil => intro _; rfl
  | cons x xs ih =>
    intro hp
    obtain ⟨hx, hxs⟩ := List.pairwise_cons.mp hp
    by_cases hm : matchesKey k x = true
    · rw [List.eraseP_cons_of_pos hm, List.find?_eq_none]
      intro y hy hy'
      have h1 := matchesKey_iff.mp hm
      have h2 := matchesKey_iff.mp hy'
      exact hx y hy ⟨h1.1.trans h2.1.symm, h1.2.trans h2.2.symm⟩
    · rw [List.eraseP_cons_of_neg hm, List.find?_cons_of_neg hm]
      exact ih hxs

theorem logEntry_st (e : ErrEntry) (c c' : Cond) (u : Unit) (h : logEntry e c = (.ok u, c')) : c'.st = c.st := by
  cases h
  exact Write.log_st e c

/-- **C07** (one step; the uniqueness of staged keys is a hypothesis, not an invariant proved along
    histories): the first report for an offered task — a join instance in particular — consumes
    its staged entry, so `get_next_tasks`, which offers only staged entries
    (`C01_offer_from_staged`), cannot offer that instance again unless a transition stages it anew -/
theorem C07_report_consumes_entry (k : TaskKey) (sx : Staged) (ev : Event) (c c' : Cond) (u : Unit)
    (hu : StagedUnique c.st) (hs : c.st.getStaged? k = some sx) (hi : sx.items = none)
    (h : noteEvent k (some sx) ev c = (.ok u, c')) : c'.st.getStaged? k = none := by
  unfold noteEvent at h
  obtain ⟨_, c1, h1, g1⟩ := M.bind_ok h
  obtain ⟨_, c2, h2, g2⟩ := M.bind_ok g1
  simp only [hi, Option.isNone_none, if_true] at h1
  have hc1 : c1 = { c with st := c.st.removeStaged k } := modifySt_ok h1
  have hst1 : c1.st.getStaged? k = none := by
    rw [hc1]
    show (c.st.removeStaged k).getStaged? k = none
    rw [WState.removeStaged_eq, hs]
    simp only [Option.any_some, hi, Option.getD_none, List.any_nil]
    exact find?_eraseP_of_unique k _ hu
  suffices hc3 : c'.st = c1.st by rw [hc3]; exact hst1
  cases ev with
  | action s r =>
    obtain ⟨-, rfl⟩ := pure_ok h2
    cases s <;> first | exact logEntry_st _ _ _ _ g2 | exact (congrArg Cond.st (pure_ok g2).2).symm
  | engine cmd =>
    obtain ⟨-, rfl⟩ := pure_ok h2
    dsimp only at g2
    split at g2
    · exact logEntry_st _ _ _ _ g2
    · exact (congrArg Cond.st (pure_ok g2).2).symm
  | item i s r a =>
    simp only [hi] at h2
    cases h2

/-- non-vacuity: two staged instances of one join on different routes are distinct entries -/
example : StagedUnique { staged := [{ id := "j", route := 0, ctxsIn := [0], prev := [], ready := true },
                                    { id := "j", route := 1, ctxsIn := [0], prev := [], ready := true }] } := by
  simp [StagedUnique]

end Orq
