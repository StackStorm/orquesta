/-
C14 (completeness of the composer model): when the worklist empties, every task reachable from a
start task is a node of the graph and all its transitions are edges.  Partial correctness: that
the worklist empties within the fuel is a hypothesis (termination of the Python loop is not
proved either).
-/
import OrqModel.Properties.Compose

namespace Orq

/-- all transitions of task `n` (other than the `retry` command) are edges of `g` -/
def Expanded (w : WfSpec) (g : Graph) (n : String) : Prop :=
  ∀ nt ∈ w.nextTasks n, nt.1 ≠ "retry" →
    ∃ e ∈ g.edges, e.src = n ∧ e.dst = nt.1 ∧ e.ref = nt.2.2 ∧ criteriaEq e.criteria nt.2.1 = true

def Queued (q : List (String × List String)) (n : String) : Prop := ∃ x ∈ q, x.1 = n
def IsNode (g : Graph) (n : String) : Prop := g.hasTask n = true

theorem Expanded.mono {w : WfSpec} {g g' : Graph} {n : String} (h : Expanded w g n)
    (hsub : ∀ e ∈ g.edges, e ∈ g'.edges) : Expanded w g' n := by
  intro nt hnt hr
  obtain ⟨e, he, h1⟩ := h nt hnt hr
  exact ⟨e, hsub e he, h1⟩

theorem hasTask_addTask (g : Graph) (n m : String) : (g.addTask n).hasTask m = (g.hasTask m || m == n) := by
  unfold Graph.addTask
  split
  · next h =>
    by_cases hm : m = n
    · simp only [hm, h, BEq.rfl, Bool.or_self]
    · simp only [Bool.eq_self_or, beq_iff_eq, hm, false_implies]
  · simp [Graph.hasTask, List.any_append, Bool.beq_comm (a := n)]

theorem hasTask_updateNode (g : Graph) (n m : String) (f : Node → Node) (hf : ∀ x, (f x).id = x.id) :
    (g.updateNode n f).hasTask m = g.hasTask m := by
  unfold Graph.updateNode Graph.hasTask
  rw [List.any_map]
  congr 1
  funext x
  show ((if x.id == n then f x else x).id == m) = (x.id == m)
  split
  · rw [hf]
  · rfl

theorem stepNode_hasTask (w : WfSpec) (g : Graph) (t : String) (splits : List String) (m : String) :
    (stepNode w g t splits).1.hasTask m = (g.hasTask m || m == t) :=
  stepNode_induct (P := fun g' => g'.hasTask m = (g.hasTask m || m == t)) w g t splits (hasTask_addTask g t m)
    fun _ _ hf h => (hasTask_updateNode _ _ _ _ hf).trans h

/-- the nodes after `addEdge`: the old ones, and the two ends when an edge was added -/
theorem isNode_addEdge (g : Graph) (t n : String) (cond : Option Expr) (idx : Nat) (m : String) :
    IsNode (addEdge g t n cond idx) m ↔
      IsNode g m ∨ ((addEdge g t n cond idx).edges ≠ g.edges ∧ (m = t ∨ m = n)) := by
  unfold addEdge IsNode
  split
  · simp only [ne_eq, not_true_eq_false, false_and, or_false]
  · show ((g.addTask t).addTask n).hasTask m = true ↔ _
    simp [hasTask_addTask, Graph.addTask_edges, or_assoc]

/-- `n` is taken care of: it is being expanded (`pend`), or it is a node with all its transitions
    in place, or it waits in the queue -/
def Settled (w : WfSpec) (st : CompState) (pend : String → Prop) (n : String) : Prop :=
  pend n ∨ (IsNode st.g n ∧ Expanded w st.g n) ∨ Queued st.queue n

/-- The worklist invariant.  `track` is the composer's `track_splits` (which tasks have been seen, and
    under which splits): a seen task is settled too; every edge ends in a node (`dsts`), which is how
    the final induction along reachability gets from an expanded task to its successors; the start
    tasks are settled from the beginning. -/
structure CInv (w : WfSpec) (st : CompState) (pend : String → Prop) : Prop where
  nodes : ∀ n, IsNode st.g n → Settled w st pend n
  track : ∀ p ∈ st.track, Settled w st pend p.1
  dsts : ∀ e ∈ st.g.edges, IsNode st.g e.dst
  roots : ∀ r ∈ w.startTasks, Settled w st pend r

/-- the graph only grows, and what was pending or queued is settled afterwards -/
structure Grows (w : WfSpec) (st st' : CompState) (pend pend' : String → Prop) : Prop where
  edges : ∀ e ∈ st.g.edges, e ∈ st'.g.edges
  nodes : ∀ m, IsNode st.g m → IsNode st'.g m
  rest : ∀ m, pend m ∨ Queued st.queue m → Settled w st' pend' m

theorem Settled.grows {w st st' pend pend'} {n : String} (h : Settled w st pend n) (hg : Grows w st st' pend pend') :
    Settled w st' pend' n := by
  rcases h with h | ⟨h1, h2⟩ | h
  · exact hg.rest n (Or.inl h)
  · exact Or.inr (Or.inl ⟨hg.nodes n h1, h2.mono hg.edges⟩)
  · exact hg.rest n (Or.inr h)

/-- every step of the composer keeps the invariant for this reason: the graph grows, and whatever
    is new (a node, a tracked name, an edge's target) is settled -/
theorem CInv.grows {w st st' pend pend'} (h : CInv w st pend) (hg : Grows w st st' pend pend')
    (hnodes : ∀ m, IsNode st'.g m → IsNode st.g m ∨ Settled w st' pend' m)
    (htrack : ∀ p ∈ st'.track, (∃ p' ∈ st.track, p'.1 = p.1) ∨ Settled w st' pend' p.1)
    (hdsts : ∀ e ∈ st'.g.edges, e ∈ st.g.edges ∨ IsNode st'.g e.dst) : CInv w st' pend' := by
  refine ⟨?_, ?_, ?_, fun r hr => (h.roots r hr).grows hg⟩
  · intro m hm
    rcases hnodes m hm with h1 | h1
    · exact (h.nodes m h1).grows hg
    · exact h1
  · intro p hp
    rcases htrack p hp with ⟨p', hp', e⟩ | h1
    · exact e ▸ (h.track p' hp').grows hg
    · exact h1
  · intro e he
    rcases hdsts e he with h1 | h1
    · exact hg.nodes _ (h.dsts e h1)
    · exact h1

theorem isNode_updateNode (g : Graph) (n : String) (f : Node → Node) (hf : ∀ x, (f x).id = x.id) (m : String) :
    IsNode (g.updateNode n f) m ↔ IsNode g m := by
  unfold IsNode
  rw [hasTask_updateNode _ _ _ _ hf]

theorem CInv.updateNode {w st pend} (h : CInv w st pend) (n : String) (f : Node → Node) (hf : ∀ x, (f x).id = x.id) :
    CInv w { st with g := st.g.updateNode n f } pend := by
  have hnode := isNode_updateNode st.g n f hf
  refine h.grows ⟨fun e he => he, fun m => (hnode m).mpr, ?_⟩ (fun m hm => Or.inl ((hnode m).mp hm))
    (fun p hp => Or.inl ⟨p, hp, rfl⟩) (fun e he => Or.inl he)
  rintro m (hm | hm)
  · exact Or.inl hm
  · exact Or.inr (Or.inr hm)

/-- visiting a target either leaves the state alone, the target being a node or tracked already,
    or queues it and tracks no other new name -/
theorem enqueueNext_cases (w : WfSpec) (splits : List String) (st : CompState) (n : String) :
    (enqueueNext w splits st n = st ∧ (IsNode st.g n ∨ ∃ p ∈ st.track, p.1 = n)) ∨
    ((enqueueNext w splits st n).queue = st.queue ++ [(n, splits)] ∧
      ∀ p ∈ (enqueueNext w splits st n).track, (∃ p' ∈ st.track, p'.1 = p.1) ∨ p.1 = n) := by
  have hmap : ∀ (f : String × List String → String × List String), (∀ p, (f p).1 = p.1) →
      ∀ p ∈ st.track.map f, (∃ p' ∈ st.track, p'.1 = p.1) ∨ p.1 = n := by
    intro f hf p hp
    obtain ⟨p', hp', rfl⟩ := List.mem_map.mp hp
    exact Or.inl ⟨p', hp', (hf p').symm⟩
  -- the result is named before the definition is opened, so that the case split works on one copy of it
  generalize hr : enqueueNext w splits st n = r
  unfold enqueueNext at hr
  split at hr
  · split at hr
    · next p existing hfind =>
      have hold : ∃ p' ∈ st.track, p'.1 = n :=
        ⟨_, List.mem_of_find?_eq_some hfind, by simpa only [beq_iff_eq] using List.find?_some hfind⟩
      split at hr
      · subst hr; exact Or.inr ⟨rfl, hmap _ fun p => by split <;> rfl⟩
      · split at hr
        · subst hr; exact Or.inr ⟨rfl, hmap _ fun p => by split <;> rfl⟩
        · subst hr; exact Or.inl ⟨rfl, Or.inr hold⟩
    · subst hr
      refine Or.inr ⟨rfl, fun p hp => ?_⟩
      rcases List.mem_append.mp hp with hp | hp
      · exact Or.inl ⟨p, hp, rfl⟩
      · cases List.mem_singleton.mp hp
        exact Or.inr rfl
  · next h =>
    subst hr
    simp only [Bool.or_eq_true, Bool.not_eq_true', not_or, Bool.not_eq_false] at h
    exact Or.inl ⟨rfl, Or.inl h.1⟩

/-- what one transition `nt` of the task `t` under expansion leaves behind -/
structure EdgeStep (w : WfSpec) (t : String) (st : CompState) (nt : String × Option Expr × Nat)
    (r : CompState) : Prop where
  inv : CInv w r (· = t)
  node : IsNode r.g t
  mono : ∀ e ∈ st.g.edges, e ∈ r.g.edges
  has : nt.1 ≠ "retry" → ∃ e ∈ r.g.edges, e.src = t ∧ e.dst = nt.1 ∧ e.ref = nt.2.2 ∧ criteriaEq e.criteria nt.2.1 = true

theorem composeEdge_inv (w : WfSpec) (t : String) (splits : List String) (st : CompState)
    (nt : String × Option Expr × Nat)
    (h : CInv w st (· = t)) (ht : IsNode st.g t) :
    EdgeStep w t st nt (composeEdge w t splits st nt) := by
  unfold composeEdge
  split
  · next hr =>
    -- the retry command only updates a node attribute
    exact ⟨h.updateNode t _ (by intro _; rfl), (isNode_updateNode _ _ _ (by intro _; rfl) t).mpr ht, fun e he => he,
      fun hne => absurd (eq_of_beq hr) hne⟩
  · -- an ordinary target `nt.1`: visited, then the edge is added
    have hg := enqueueNext_g w splits st nt.1
    have hcases := enqueueNext_cases w splits st nt.1
    generalize enqueueNext w splits st nt.1 = st1 at hg hcases ⊢
    dsimp only
    have hq : ∀ x ∈ st.queue, x ∈ st1.queue := by
      rcases hcases with ⟨e, _⟩ | ⟨e, _⟩ <;> rw [e]
      · exact fun x hx => hx
      · exact fun x hx => List.mem_append_left _ hx
    have hnode := isNode_addEdge st.g t nt.1 nt.2.1 nt.2.2
    have hedges := addEdge_edges st.g t nt.1 nt.2.1 nt.2.2
    rw [← hg] at hnode hedges
    generalize addEdge st1.g t nt.1 nt.2.1 nt.2.2 = g' at hnode hedges ⊢
    have hmono : ∀ e ∈ st.g.edges, e ∈ g'.edges := by
      rcases hedges with ⟨e, _⟩ | ⟨_, e⟩ <;> rw [e, hg]
      · exact fun x hx => hx
      · exact fun x hx => List.mem_append_left _ hx
    have hgrows : Grows w st { st1 with g := g' } (· = t) (· = t) := by
      refine ⟨hmono, fun m hm => (hnode m).mpr (Or.inl (hg ▸ hm)), ?_⟩
      rintro m (hm | ⟨x, hx, hm⟩)
      · exact Or.inl hm
      · exact Or.inr (Or.inr ⟨x, hq x hx, hm⟩)
    -- the target is settled afterwards: queued now, or known before
    have hnext : Settled w { st1 with g := g' } (· = t) nt.1 := by
      rcases hcases with ⟨_, hk | ⟨p, hp, hpk⟩⟩ | ⟨e, _⟩
      · exact (h.nodes _ hk).grows hgrows
      · exact hpk ▸ (h.track p hp).grows hgrows
      · exact Or.inr (Or.inr ⟨(nt.1, splits), by rw [e]; exact List.mem_concat_self, rfl⟩)
    refine ⟨h.grows hgrows ?_ ?_ ?_, (hnode t).mpr (Or.inl (hg ▸ ht)), hmono, fun _ => ?_⟩
    · intro m hm
      rcases (hnode m).mp hm with h1 | ⟨_, rfl | rfl⟩
      · exact Or.inl (hg ▸ h1)
      · exact Or.inr (Or.inl rfl)
      · exact Or.inr hnext
    · intro p hp
      rcases hcases with ⟨e, _⟩ | ⟨_, htr⟩
      · exact Or.inl ⟨p, e ▸ hp, rfl⟩
      · rcases htr p hp with h1 | h1
        · exact Or.inl h1
        · exact Or.inr (h1 ▸ hnext)
    · intro e he
      rcases hedges with ⟨e1, _⟩ | ⟨_, e1⟩ <;> rw [e1, hg] at he
      · exact Or.inl he
      · rcases List.mem_append.mp he with he | he
        · exact Or.inl he
        · cases List.mem_singleton.mp he
          exact Or.inr ((hnode nt.1).mpr (Or.inr ⟨by rw [e1]; simp, Or.inr rfl⟩))
    · -- the edge is there: it was, or it has just been appended
      rcases hedges with ⟨e1, hex⟩ | ⟨_, e1⟩
      · exact e1 ▸ hex
      · exact ⟨_, by rw [e1]; exact List.mem_append_right _ (List.mem_singleton.mpr rfl), rfl, rfl, rfl,
          by cases nt.2.1 <;> rfl⟩

/-- fold invariant that also knows which prefix has been processed -/
theorem foldl_inv_prefix {α β} (P : List α → β → Prop) (f : β → α → β) (l : List α) (b : β) (hb : P [] b)
    (h : ∀ pre acc x, P pre acc → P (pre ++ [x]) (f acc x)) : P l (l.foldl f b) := by
  suffices hg : ∀ pre (b : β), P pre b → P (pre ++ l) (l.foldl f b) by simpa only [List.nil_append] using hg [] b hb
  induction l with
  | nil => intro pre b hp; simpa only [List.append_nil, List.foldl_nil] using hp
  | cons x xs ih =>
    intro pre b hp
    simpa using ih (pre ++ [x]) (f b x) (h pre b x hp)

theorem composeStep_inv (w : WfSpec) (st : CompState) (t : String) (splits : List String)
    (rest : List (String × List String)) (hq : st.queue = (t, splits) :: rest)
    (h : CInv w st (fun _ => False)) :
    CInv w (composeStep w { st with queue := rest } t splits) (fun _ => False) := by
  unfold composeStep
  dsimp only
  have hedges := stepNode_edges w st.g t splits
  have hnodes := stepNode_hasTask w st.g t splits
  generalize (stepNode w st.g t splits).2 = splits'
  generalize (stepNode w st.g t splits).1 = g1 at hedges hnodes ⊢
  have hnode : ∀ m, IsNode g1 m ↔ IsNode st.g m ∨ m = t := fun m => by simp [IsNode, hnodes]
  -- `t` leaves the queue and becomes a node
  have h0 : CInv w { st with queue := rest, g := g1 } (· = t) := by
    refine h.grows ⟨fun e he => hedges ▸ he, fun m hm => (hnode m).mpr (Or.inl hm), ?_⟩ ?_
      (fun p hp => Or.inl ⟨p, hp, rfl⟩) (fun e he => Or.inl (hedges ▸ he))
    · rintro m (hm | ⟨x, hx, hm⟩)
      · exact hm.elim
      · rw [hq] at hx
        rcases List.mem_cons.mp hx with hx | hx
        · exact Or.inl (by rw [← hm, hx])
        · exact Or.inr (Or.inr ⟨x, hx, hm⟩)
    · intro m hm
      rcases (hnode m).mp hm with h1 | h1
      · exact Or.inl h1
      · exact Or.inr (Or.inl h1)
  -- the fold over the transitions of `t` puts an edge in place for each of them
  obtain ⟨hinv, hnodeT, hall⟩ := foldl_inv_prefix
    (fun (pre : List (String × Option Expr × Nat)) (s : CompState) =>
      CInv w s (· = t) ∧ IsNode s.g t ∧
      ∀ nt ∈ pre, nt.1 ≠ "retry" →
        ∃ e ∈ s.g.edges, e.src = t ∧ e.dst = nt.1 ∧ e.ref = nt.2.2 ∧ criteriaEq e.criteria nt.2.1 = true)
    (composeEdge w t splits') (w.nextTasks t) { st with queue := rest, g := g1 }
    ⟨h0, (hnode t).mpr (Or.inr rfl), fun nt hnt => nomatch hnt⟩
    (by
      intro pre acc x ⟨hinv, hnode, hpre⟩
      have hs := composeEdge_inv w t splits' acc x hinv hnode
      refine ⟨hs.inv, hs.node, fun nt hnt hr => ?_⟩
      rcases List.mem_append.mp hnt with hnt | hnt
      · obtain ⟨e, he, h1⟩ := hpre nt hnt hr
        exact ⟨e, hs.mono e he, h1⟩
      · cases List.mem_singleton.mp hnt
        exact hs.has hr)
  -- so `t` is expanded
  refine hinv.grows ⟨fun e he => he, fun m hm => hm, ?_⟩ (fun m hm => Or.inl hm)
    (fun p hp => Or.inl ⟨p, hp, rfl⟩) (fun e he => Or.inl he)
  rintro m (rfl | hm)
  · exact Or.inr (Or.inl ⟨hnodeT, hall⟩)
  · exact Or.inr (Or.inr hm)

theorem composeLoop_inv (w : WfSpec) (fuel : Nat) (st : CompState) (h : CInv w st (fun _ => False)) :
    CInv w (composeLoop w fuel st) (fun _ => False) := by
  induction fuel generalizing st with
  | zero => exact h
  | succ n ih =>
    unfold composeLoop
    split
    · exact h
    · next t splits rest hq => exact ih _ (composeStep_inv w st t splits rest hq h)

/-- reachability in the definition: from a start task along transitions (other than `retry`) -/
inductive Reach (w : WfSpec) : String → Prop
  | root {r} : r ∈ w.startTasks → Reach w r
  | step {n} {nt : String × Option Expr × Nat} : Reach w n → nt ∈ w.nextTasks n → nt.1 ≠ "retry" → Reach w nt.1

/-- **C14** (completeness, partial correctness): if the composer's worklist empties (it does for
    every definition the correspondence check has run; termination is not proved), then every
    task reachable from a start task is a node of the composed graph and every one of its
    transitions (other than a `retry` command) is an edge with that transition's position and
    condition. -/
theorem C14_complete (w : WfSpec)
    (hterm : (composeLoop w (composeFuel w) { queue := w.startTasks.map fun n => (n, []) }).queue = []) :
    ∀ n, Reach w n → IsNode (compose w) n ∧ Expanded w (compose w) n := by
  have hinv := composeLoop_inv w (composeFuel w) { queue := w.startTasks.map fun n => (n, []) }
    ⟨fun n hn => by simp [IsNode, Graph.hasTask] at hn, fun p hp => (nomatch hp), fun e he => (nomatch he),
     fun r hr => Or.inr (Or.inr ⟨(r, []), List.mem_map.mpr ⟨r, hr, rfl⟩, rfl⟩)⟩
  -- nothing is pending or queued at the end: what is settled is expanded
  have hdone : ∀ m, Settled w (composeLoop w (composeFuel w) { queue := w.startTasks.map fun n => (n, []) })
      (fun _ => False) m → IsNode (compose w) m ∧ Expanded w (compose w) m := by
    rintro m (hm | hm | ⟨x, hx, _⟩)
    · exact hm.elim
    · exact hm
    · rw [hterm] at hx
      cases hx
  intro n hn
  induction hn with
  | root hr => exact hdone _ (hinv.roots _ hr)
  | step _ hnt hr ih =>
    obtain ⟨e, he, _, hd, _, _⟩ := ih.2 _ hnt hr
    exact hdone _ (hinv.nodes _ (hd ▸ hinv.dsts e he))

end Orq
