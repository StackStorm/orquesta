/-
C01, "justified by the definition": along every history the decisions a record holds are about
edges of the graph composed from the definition that leave the record's own task; hence every
predecessor of an offered task is a completed record of some task `s` that recorded `true` for an
edge `s → offered task` of the composed graph.
-/
import OrqModel.Properties.Truth
import OrqModel.Properties.Query

namespace Orq

variable (E : Evaluator)

theorem init_graph (spec : WfSpec) (parentCtx inputs : Val.Dict) : (init E spec parentCtx inputs).graph = compose spec :=
  ((init_run E spec parentCtx inputs).rel (P := gPre) fun c w _ => Write.graph_eq w c).2

/-- **C01**: along every history — no restriction on the operations — every decision a task record
    holds is about an edge of the composed graph that leaves the record's own task: the engine
    evaluates and records only transitions the definition has -/
theorem C01_decisions_follow_graph_edges (spec : WfSpec) (parentCtx inputs : Val.Dict) (ops : List Op) :
    ∀ r ∈ (runOps E ops (init E spec parentCtx inputs)).st.sequence, ∀ m ∈ r.next,
      ∃ e ∈ (compose spec).edges, e.src = r.id ∧ e.dst = m.1.1 ∧ e.key = m.1.2 := by
  intro r hr m hm
  have hne := (history_keeps E .taskMap (I := NE) (fun _ _ _ hg _ _ hn => hg.ne trivial hn)
    spec parentCtx inputs ⟨fun _ h => (by cases h)⟩ ops fun h => h.elim False.elim False.elim).main
  obtain ⟨e, he, h1⟩ := hne.recs r hr m hm
  rw [(C19_definition_and_graph_fixed E ops (init E spec parentCtx inputs)).2, init_graph] at he
  exact ⟨e, he, h1⟩

/-- **C01**, as the property states it: every task the conductor offers, at any point of any
    history, is a ready staged entry, and each predecessor it names is a *completed* record of a
    task `s` that recorded **true** for an edge `s → offered task` *of the graph composed from the
    definition* (a start task names none; a retried or rerun task inherits the list of the record
    it repeats) -/
theorem C01_offers_justified_by_the_definition (spec : WfSpec) (parentCtx inputs : Val.Dict) (ops : List Op)
    (hops : ∀ op ∈ ops, op.notRetryEvent) (offers : List Offer) (c' : Cond)
    (h : getNextTasks E (runOps E ops (init E spec parentCtx inputs)) = (.ok offers, c')) :
    ∀ o ∈ offers, ∃ sx ∈ (runOps E ops (init E spec parentCtx inputs)).st.staged,
      sx.id = o.id ∧ sx.route = o.route ∧ sx.ready = true ∧
      ∀ p ∈ sx.prev, ∃ q, (runOps E ops (init E spec parentCtx inputs)).st.sequence[p.2]? = some q ∧
        (∃ s, q.status = some s ∧ s.isCompleted = true) ∧ ((o.id, p.1.2), true) ∈ q.next ∧
        ∃ e ∈ (compose spec).edges, e.src = q.id ∧ e.dst = o.id ∧ e.key = p.1.2 := by
  intro o ho
  obtain ⟨sx, hsx, h1, h2, hready, hprev⟩ :=
    C01_offers_have_true_transitions E spec parentCtx inputs ops hops offers c' h o ho
  refine ⟨sx, hsx, h1, h2, hready, ?_⟩
  intro p hp
  obtain ⟨q, hq, hcomp, hm⟩ := hprev p hp
  exact ⟨q, hq, hcomp, hm, C01_decisions_follow_graph_edges E spec parentCtx inputs ops q (List.mem_of_getElem? hq) _ hm⟩

/-- **C01**: a task nothing transitions into (a start task of the composed graph) never names a
    predecessor — neither in a staged entry nor in a record — at any point of any history: it is
    staged by the initialisation, by a retry or by a rerun only -/
theorem C01_start_tasks_name_no_predecessor (spec : WfSpec) (parentCtx inputs : Val.Dict) (ops : List Op)
    (hops : ∀ op ∈ ops, op.notRetryEvent) (n : String) (hroot : ∀ e ∈ (compose spec).edges, e.dst ≠ n) :
    (∀ x ∈ (runOps E ops (init E spec parentCtx inputs)).st.staged, x.id = n → x.prev = []) ∧
    (∀ r ∈ (runOps E ops (init E spec parentCtx inputs)).st.sequence, r.id = n → r.prev = []) := by
  have hjt := C01_predecessors_decided_true E spec parentCtx inputs ops hops
  have hne := C01_decisions_follow_graph_edges E spec parentCtx inputs ops
  have key : ∀ (l : List (TransId × Nat)), PrevT (runOps E ops (init E spec parentCtx inputs)) n l → l = [] := by
    intro l hl
    cases l with
    | nil => rfl
    | cons p ps =>
      obtain ⟨q, hq, hm⟩ := hl p List.mem_cons_self
      obtain ⟨e, he, _, e2, _⟩ := hne q (List.mem_of_getElem? hq) _ hm
      exact absurd e2 (hroot e he)
  exact ⟨fun x hx hid => key _ (hid ▸ hjt.staged x hx), fun r hr hid => key _ (hid ▸ hjt.recs r hr)⟩

/-- **C01**: a satisfied transition into a split task (no join, several inbound transitions, on no
    cycle) gets a route of its own at every traversal: the route returned is a new index -- the
    length of the route table before -- and the table grows by exactly the old route's transitions
    plus this one.  Two traversals of the same transition can therefore never land on the same
    (task, route) instance -/
theorem C01_split_gets_fresh_route (e : Edge) (r r' : Nat) (c c' : Cond) (old : List TransId)
    (hs : c.spec.isSplit e.dst = true) (hc : c.graph.inCycle e.dst = false)
    (ho : c.st.routes[r]? = some old) (hn : old.contains ((e.src, e.key) : TransId) = false)
    (h : evaluateRoute e r c = (.ok r', c')) :
    r' = c.st.routes.length ∧ c'.st.routes = c.st.routes ++ [old ++ [(e.src, e.key)]] := by
  unfold evaluateRoute at h
  rw [M.get_bind] at h
  simp only [hs, hc, Bool.not_true, Bool.or_false, ho, hn] at h
  obtain ⟨u, c2, hm, h2⟩ := M.bind_ok h
  obtain ⟨rfl, rfl⟩ := pure_ok h2
  exact ⟨rfl, congrArg (·.st.routes) (modifySt_ok hm)⟩

end Orq
