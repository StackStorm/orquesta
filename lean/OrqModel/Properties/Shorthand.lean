/-
C20: two shorthands of the definition language whose meaning lives in the modelled code (the
composer and the transition loop), stated outright.
-/
import OrqModel.Model.Conductor

namespace Orq

variable (E : Evaluator)

/-- **C20**: a transition without `when` means "on every completion": its condition holds on every
    task context, whatever the evaluator does -/
theorem C20_missing_when_always_taken (e : Edge) (ec : EvalCtx) (h : e.criteria = none) :
    transCriteria E e ec = some true := by
  unfold transCriteria
  rw [h]

/-- **C20**: the engine command `retry` in a transition's `do` means the long form -- a retry
    policy on the task whose condition is the transition's condition (`completed()` when the
    transition has none), with a count of 3 and no delay -- and adds no edge and queues nothing -/
theorem C20_retry_command_is_policy (w : WfSpec) (t : String) (splits : List String) (st : CompState)
    (cond : Option Expr) (idx : Nat) :
    composeEdge w t splits st ("retry", cond, idx) =
      { st with g := st.g.updateNode t fun nd =>
          { nd with retry := some { when_ := some (cond.getD .completed), count := some (.lit (.int 3)), delay := none } } } :=
  rfl

end Orq
