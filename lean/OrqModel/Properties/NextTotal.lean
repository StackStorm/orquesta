/-
C11/C15: `get_next_tasks` never raises.
-/
import OrqModel.Proofs.NextTotal

namespace Orq

variable (E : Evaluator)

/-- **C11/C15**: whatever the evaluator does — every expression may fail, anywhere — asking for the
    next tasks never raises: from every state whose workflow status is one a workflow can be in,
    `get_next_tasks` returns a list -/
theorem C11_next_never_raises (c : Cond) (hreach : wfReachable c.st.status = true) :
    ∃ r, (getNextTasks E c).1 = .ok r := getNextTasks_total E c hreach

/-- the same along every rerun-free history that starts in such a state: after any sequence of
    status requests, queries, reports and renderings the query still never raises -/
theorem C11_next_never_raises_history (ops : List Op) (hops : ∀ op ∈ ops, op.isRerun = false) (c : Cond)
    (hreach : wfReachable c.st.status = true) :
    ∃ r, (getNextTasks E (runOps E ops c)).1 = .ok r := by
  apply getNextTasks_total
  exact runOps_valid_closed E (S := fun s => wfReachable s = true) (by decide +kernel) ops hops c hreach

/-- the request for `failed` that follows a recorded run-time error is always honoured: the error
    handlers of the conductor never raise -/
theorem C11_error_handler_total (c : Cond) (hreach : wfReachable c.st.status = true) :
    (failOnError c).1 = .ok () := failOnError_ok c hreach

end Orq
