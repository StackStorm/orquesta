/-
C19: `get_next_tasks` is a query (it touches the `items` bookkeeping of staged entries and the error
log only, never the definition or the graph) and, for an evaluator that cannot see that bookkeeping,
a repeatable one.
-/
import OrqModel.Proofs.FragBlind
import OrqModel.Proofs.Frames

namespace Orq

variable (E : Evaluator)

/-- **C19**: for every definition, state and evaluator, a call of `get_next_tasks` that returns at
    least one task has left the records, the context snapshots, the routes, the task-key map, the
    rerun log, the workflow status and the output exactly as they were, and every staged entry
    unchanged except possibly for its `items` bookkeeping (initialised on the first query of a
    with-items task) -/
theorem C19_next_is_query (c c' : Cond) (r : List Offer) (h : getNextTasks E c = (.ok r, c')) (hr : r ≠ []) :
    c'.st.sequence = c.st.sequence ∧ c'.st.contexts = c.st.contexts ∧ c'.st.routes = c.st.routes ∧
    c'.st.tasks = c.st.tasks ∧ c'.st.reruns = c.st.reruns ∧ c'.st.status = c.st.status ∧
    c'.output = c.output ∧ c'.st.staged.map Staged.dropItems = c.st.staged.map Staged.dropItems := by
  obtain ⟨_, _, ho, hs⟩ := getNextTasks_query E c c' r h hr
  exact ⟨hs.sequence, hs.contexts, hs.routes, hs.tasks, hs.reruns, hs.status, ho, hs.staged⟩

/-- one staged entry: rendering a task for the offer touches nothing but that bookkeeping and the
    error log, whether it succeeds or raises -/
theorem C19_render_is_query (sx : Staged) (c : Cond) :
    (nextTaskFor E sx c).2.st.sequence = c.st.sequence ∧ (nextTaskFor E sx c).2.st.status = c.st.status ∧
    (nextTaskFor E sx c).2.st.contexts = c.st.contexts ∧
    (nextTaskFor E sx c).2.st.staged.map Staged.dropItems = c.st.staged.map Staged.dropItems := by
  have hs := ((nextTaskFor_q E sx).run c).2.2.2
  exact ⟨hs.sequence, hs.status, hs.contexts, hs.staged⟩

/-- **C19**: asking for the next tasks is repeatable.  For every definition and state, and for every
    evaluator that cannot see the `items` bookkeeping of the staging area (`Evaluator.ItemsBlind`:
    the functions of the expression languages read task records, routes and contexts, never the
    staging area), if `get_next_tasks` returns at least one task then asking again at once returns
    the same list and leaves the state exactly as the first call left it.  (A call that returns
    nothing because rendering failed has, by design, failed the workflow.) -/
theorem C19_next_idempotent (hE : E.ItemsBlind) (c c1 : Cond) (r : List Offer)
    (h : getNextTasks E c = (.ok r, c1)) (hr : r ≠ []) : getNextTasks E c1 = (.ok r, c1) :=
  getNextTasks_idem E hE c c1 r h hr

/-- the hypothesis is met by the evaluator the executable driver uses in the correspondence check -/
theorem C19_fragment_evaluator_items_blind : fragEvaluator.ItemsBlind := fragEvaluator_itemsBlind

theorem C19_next_idempotent_fragment (c c1 : Cond) (r : List Offer)
    (h : getNextTasks fragEvaluator c = (.ok r, c1)) (hr : r ≠ []) :
    getNextTasks fragEvaluator c1 = (.ok r, c1) :=
  getNextTasks_idem fragEvaluator fragEvaluator_itemsBlind c c1 r h hr

/-- **C19/C14**: the definition and the graph composed from it are fixed for the life of the
    conductor: no API call (whatever it returns or raises) changes either -/
theorem C19_definition_and_graph_fixed (ops : List Op) (c : Cond) :
    (runOps E ops c).spec = c.spec ∧ (runOps E ops c).graph = c.graph :=
  runOps_rel E (P := gPre) (fun c w => Write.graph_eq w c) ops c

end Orq
