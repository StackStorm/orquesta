/-
C14: transition keys.  Among the edges of the composed graph, the edges from one task to one
target carry distinct keys (the k-th parallel edge gets key k), so a task's outbound transitions
are identified by (target, key) without ambiguity.
-/
import OrqModel.Properties.Compose

namespace Orq

def samePair (a b : Edge) : Bool := a.src == b.src && a.dst == b.dst

/-- keys of the edges of one (source, target) pair are below their number and pairwise distinct -/
structure KeysOk (l : List Edge) : Prop where
  bound : ∀ e ∈ l, e.key < (l.filter fun x => x.src == e.src && x.dst == e.dst).length
  distinct : l.Pairwise fun a b => ¬ (a.src = b.src ∧ a.dst = b.dst ∧ a.key = b.key)

theorem KeysOk.nil : KeysOk [] := ⟨fun e he => (by cases he), List.Pairwise.nil⟩

/-- **C14**: in the composed graph, two distinct edges from the same task to the same target never
    share a key -/
theorem C14_keys_distinct (w : WfSpec) : KeysOk (compose w).edges := by
  apply compose_edges_induct w KeysOk KeysOk.nil
  intro g t nt _ _ h
  rcases addEdge_edges g t nt.1 nt.2.1 nt.2.2 with ⟨h1, _⟩ | ⟨_, h1⟩ <;> rw [h1]
  · exact h
  -- the new edge gets the number of edges of its pair as key: above all their keys, below the new number
  refine ⟨?_, List.pairwise_append.mpr ⟨h.distinct, List.pairwise_singleton _ _, ?_⟩⟩
  · intro e he
    rw [List.filter_append, List.length_append]
    rcases List.mem_append.mp he with he | he
    · exact Nat.lt_add_right _ (h.bound e he)
    · cases List.mem_singleton.mp he
      simp
  · intro a ha b hb ⟨h1, h2, h3⟩
    cases List.mem_singleton.mp hb
    have := h.bound a ha
    simp only at h1 h2 h3
    rw [h1, h2] at this
    exact Nat.ne_of_lt this h3

/-- the identifiers (target, key) of a task's outbound transitions are pairwise distinct -/
theorem nextTransitions_nodup (g : Graph) (n : String) (h : KeysOk g.edges) :
    ((g.nextTransitions n).map fun e => ((e.dst, e.key) : String × Nat)).Nodup := by
  rw [((nextTransitions_perm g n).map _).nodup_iff, List.nodup_iff_pairwise_ne, List.pairwise_map]
  refine (h.distinct.sublist List.filter_sublist).imp_of_mem ?_
  intro a b ha hb hne heq
  have hsrc : ∀ x ∈ g.edges.filter (·.src == n), x.src = n := fun x hx => eq_of_beq (List.mem_filter.mp hx).2
  exact hne ⟨(hsrc a ha).trans (hsrc b hb).symm, (Prod.mk.inj heq).1, (Prod.mk.inj heq).2⟩

end Orq
