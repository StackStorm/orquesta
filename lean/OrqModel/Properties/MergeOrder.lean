/-
C08: the context a task is rendered with is the merge of the snapshots its staged entry lists, in
the order the inbound branches arrived.  A variable that at most one of those snapshots writes
reads the same whatever that order is.
-/
import OrqModel.Properties.Values

namespace Orq

/-- a step for another key leaves the reading of `k` alone -/
theorem mergeStep_other (fuel : Nat) (acc : Val.Dict) (p : String × Val) (k : String) (h : p.1 ≠ k) :
    Val.dlookup (mergeStep fuel acc p) k = Val.dlookup acc k := by
  unfold mergeStep
  cases fuel with
  | zero => exact dlookup_dset_other _ _ _ _ h
  | succ n =>
    dsimp only
    split <;> exact dlookup_dset_other _ _ _ _ h

/-- what a step makes `k` read depends on the left only through what `k` read there -/
theorem mergeStep_congr (fuel : Nat) (a b : Val.Dict) (p : String × Val) (k : String)
    (h : Val.dlookup a k = Val.dlookup b k) :
    Val.dlookup (mergeStep fuel a p) k = Val.dlookup (mergeStep fuel b p) k := by
  by_cases hk : p.1 = k
  · unfold mergeStep
    cases fuel with
    | zero => rw [hk, dlookup_dset_same, dlookup_dset_same]
    | succ n =>
      dsimp only
      rw [hk, h]
      split <;> rw [dlookup_dset_same, dlookup_dset_same]
  · rw [mergeStep_other _ _ _ _ hk, mergeStep_other _ _ _ _ hk, h]

theorem merge_congr (fuel : Nat) (right : Val.Dict) (k : String) :
    ∀ (a b : Val.Dict), Val.dlookup a k = Val.dlookup b k →
      Val.dlookup (Val.merge fuel a right) k = Val.dlookup (Val.merge fuel b right) k := by
  simp only [merge_eq_fold]
  induction right with
  | nil => intro a b h; exact h
  | cons p rest ih =>
    intro a b h
    simp only [List.foldl_cons]
    exact ih _ _ (mergeStep_congr fuel a b p k h)

theorem dlookup_eq_none_iff {d : Val.Dict} {k : String} : Val.dlookup d k = none ↔ ∀ p ∈ d, p.1 ≠ k := by
  induction d with
  | nil => simp [Val.dlookup]
  | cons x xs ih => by_cases h : x.1 = k <;> simp [Val.dlookup, h, ih]

theorem dlookup_none_of_notin (d : Val.Dict) (k : String) (h : ∀ p ∈ d, p.1 ≠ k) : Val.dlookup d k = none :=
  dlookup_eq_none_iff.mpr h

/-- a right operand that does not write `k` leaves the reading of `k` alone -/
theorem merge_frame (fuel : Nat) (right : Val.Dict) (k : String) (hr : Val.dlookup right k = none) :
    ∀ (a : Val.Dict), Val.dlookup (Val.merge fuel a right) k = Val.dlookup a k := by
  have hn := dlookup_eq_none_iff.mp hr
  simp only [merge_eq_fold]
  clear hr
  induction right with
  | nil => intro a; rfl
  | cons p rest ih =>
    intro a
    rw [List.foldl_cons, ih (fun q hq => hn q (List.mem_cons_of_mem _ hq))]
    exact mergeStep_other fuel a p k (hn p List.mem_cons_self)

/-- the snapshots merged left to right -/
def mergeAll (base : Val.Dict) (ds : List Val.Dict) : Val.Dict := ds.foldl Val.mergeDicts base

/-- does the snapshot write `k`? -/
def writes (k : String) (d : Val.Dict) : Bool := (Val.dlookup d k).isSome

/-- what the merged context reads for `k` depends on the snapshots only through those that write
    `k`, in their order, and on the base only through what it reads for `k` -/
theorem mergeAll_filter_writes (k : String) : ∀ (ds : List Val.Dict) (base base' : Val.Dict),
    Val.dlookup base k = Val.dlookup base' k →
    Val.dlookup (mergeAll base ds) k = Val.dlookup (mergeAll base' (ds.filter (writes k))) k := by
  intro ds
  induction ds with
  | nil => intro base base' h; exact h
  | cons x rest ih =>
    intro base base' h
    show Val.dlookup (mergeAll (Val.mergeDicts base x) rest) k = _
    cases hx : Val.dlookup x k with
    | some v =>
      rw [List.filter_cons_of_pos (by simp [writes, hx])]
      exact ih _ _ (merge_congr _ x k _ _ h)
    | none =>
      rw [List.filter_cons_of_neg (by simp [writes, hx])]
      exact ih _ _ ((merge_frame _ x k hx base).trans h)

/-- **C08**: when every snapshot that writes the variable is one and the same snapshot -- listed
    once, or several times because the branches of a join share it as an ancestor -- the merged
    context reads the variable the same in whatever order the snapshots are merged -/
theorem C08_same_writer_order_free (k : String) (base d : Val.Dict) (ds ds' : List Val.Dict)
    (hp : ds.Perm ds') (hw : ∀ x ∈ ds, writes k x = true → x = d) :
    Val.dlookup (mergeAll base ds) k = Val.dlookup (mergeAll base ds') k := by
  -- both lists of writers are `d` repeated the same number of times
  have hrep : ∀ l : List Val.Dict, (∀ x ∈ l, writes k x = true → x = d) →
      l.filter (writes k) = List.replicate (l.filter (writes k)).length d := fun l hl =>
    List.eq_replicate_of_mem fun x hx => hl x (List.mem_filter.mp hx).1 (List.mem_filter.mp hx).2
  rw [mergeAll_filter_writes k ds base base rfl, mergeAll_filter_writes k ds' base base rfl, hrep ds hw,
    hrep ds' (fun x hx => hw x (hp.mem_iff.mpr hx)), (hp.filter _).length_eq]

/-- **C08**: the merged context reads a variable written by at most one of the snapshots the same
    in whatever order the snapshots are merged (the order the inbound branches arrived in) -/
theorem C08_single_writer_order_free (k : String) (base : Val.Dict) (ds ds' : List Val.Dict)
    (hp : ds.Perm ds') (h1 : (ds.filter (writes k)).length ≤ 1) :
    Val.dlookup (mergeAll base ds) k = Val.dlookup (mergeAll base ds') k := by
  -- the one writer, if there is any, is the same snapshot for all
  refine C08_same_writer_order_free k base ((ds.filter (writes k)).headD []) ds ds' hp fun x hx hwx => ?_
  have hm : x ∈ ds.filter (writes k) := List.mem_filter.mpr ⟨hx, hwx⟩
  match hf : ds.filter (writes k), h1, hm with
  | [d], _, hm => exact List.mem_singleton.mp hm

/-- one step of `get_task_context` -/
def ctxStep (s : WState) (acc : Val.Dict) (i : Nat) : Except Err Val.Dict :=
  match s.contexts[i]? with
  | some c => .ok (Val.mergeDicts acc c)
  | none => .error .indexError

theorem taskContext_eq (s : WState) (idxs : List Nat) : s.taskContext idxs = idxs.foldlM (ctxStep s) [] := rfl

/-- `get_task_context` is the left-to-right merge of the snapshots when every index exists, and
    `IndexError` otherwise -/
theorem foldlM_ctxStep (s : WState) : ∀ (idxs : List Nat) (base : Val.Dict),
    idxs.foldlM (ctxStep s) base =
      if ∀ i ∈ idxs, i < s.contexts.length then .ok (mergeAll base (idxs.filterMap (s.contexts[·]?)))
      else .error .indexError := by
  intro idxs
  induction idxs with
  | nil => intro base; simp [mergeAll]; rfl
  | cons i rest ih =>
    intro base
    rw [List.foldlM_cons]
    by_cases hi : i < s.contexts.length
    · have hs : s.contexts[i]? = some s.contexts[i] := List.getElem?_eq_getElem hi
      simp only [ctxStep, hs, List.filterMap_cons, List.forall_mem_cons, hi, true_and]
      exact ih _
    · have hs : s.contexts[i]? = none := List.getElem?_eq_none (Nat.le_of_not_lt hi)
      simp only [ctxStep, hs, List.forall_mem_cons, hi, false_and, if_false]
      rfl

theorem taskContext_eq_mergeAll (s : WState) (idxs : List Nat) (hr : ∀ i ∈ idxs, i < s.contexts.length) :
    s.taskContext idxs = .ok (mergeAll [] (idxs.filterMap (s.contexts[·]?))) := by
  rw [taskContext_eq, foldlM_ctxStep, if_pos hr]

/-- **C08**: two orders of the same snapshot indices give contexts that agree on every variable
    written by at most one of those snapshots -/
theorem C08_context_order_free (s : WState) (idxs idxs' : List Nat) (k : String) (hp : idxs.Perm idxs')
    (hr : ∀ i ∈ idxs, i < s.contexts.length)
    (h1 : ((idxs.filterMap (s.contexts[·]?)).filter (writes k)).length ≤ 1) :
    ∃ v v', s.taskContext idxs = .ok v ∧ s.taskContext idxs' = .ok v' ∧ Val.dlookup v k = Val.dlookup v' k := by
  refine ⟨_, _, taskContext_eq_mergeAll s idxs hr,
    taskContext_eq_mergeAll s idxs' (fun i hi => hr i (hp.mem_iff.mpr hi)), ?_⟩
  exact C08_single_writer_order_free k [] _ _ (hp.filterMap _) h1

/-- non-vacuity: two branches publishing different variables, merged in either order -/
example : Val.dlookup (mergeAll [] [[("x", .int 1)], [("y", .int 2)]]) "x"
    = Val.dlookup (mergeAll [] [[("y", .int 2)], [("x", .int 1)]]) "x" :=
  C08_single_writer_order_free "x" [] _ _ (List.Perm.swap _ _ _) (by decide)

/-- **C08**: the same for `get_task_context` over two orders of the same snapshot indices -/
theorem C08_context_order_free_shared (s : WState) (idxs idxs' : List Nat) (k : String) (d : Val.Dict)
    (hp : idxs.Perm idxs') (hr : ∀ i ∈ idxs, i < s.contexts.length)
    (hw : ∀ i ∈ idxs, ∀ x, s.contexts[i]? = some x → writes k x = true → x = d) :
    ∃ v v', s.taskContext idxs = .ok v ∧ s.taskContext idxs' = .ok v' ∧ Val.dlookup v k = Val.dlookup v' k := by
  refine ⟨_, _, taskContext_eq_mergeAll s idxs hr,
    taskContext_eq_mergeAll s idxs' (fun i hi => hr i (hp.mem_iff.mpr hi)), ?_⟩
  refine C08_same_writer_order_free k [] d _ _ (hp.filterMap _) ?_
  intro x hx hwx
  obtain ⟨i, hi, hix⟩ := List.mem_filterMap.mp hx
  exact hw i hi x hix hwx

/-- non-vacuity: snapshot `a` is an ancestor of both branches of a join -/
example : Val.dlookup (mergeAll [] [[("a", .int 1)], [("x", .int 2)], [("a", .int 1)]]) "a"
    = Val.dlookup (mergeAll [] [[("a", .int 1)], [("a", .int 1)], [("x", .int 2)]]) "a" := by
  refine C08_same_writer_order_free "a" [] [("a", .int 1)] _ _ (List.Perm.cons _ (List.Perm.swap _ _ _)) ?_
  intro x hx hw
  simp only [List.mem_cons, List.not_mem_nil, or_false] at hx
  rcases hx with rfl | rfl | rfl
  · rfl
  · exact absurd hw (by decide)
  · rfl

end Orq
