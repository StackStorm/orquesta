/-
C14: the model of the composer, for every definition.  Soundness (every edge is a triple of the
definition), uniqueness (at most one edge per triple), and what `get_next_transitions` returns;
completeness is in `ComposeComplete.lean`.
-/
import OrqModel.Proofs.StateLemmas

namespace Orq

/-- an edge is justified by the definition -/
def EdgeOk (w : WfSpec) (e : Edge) : Prop :=
  (e.dst, e.criteria, e.ref) ∈ w.nextTasks e.src ∧ e.dst ≠ "retry"

theorem Graph.addTask_edges (g : Graph) (n : String) : (g.addTask n).edges = g.edges := by
  unfold Graph.addTask; split <;> rfl

theorem Graph.updateNode_edges (g : Graph) (n : String) (f) : (g.updateNode n f).edges = g.edges := rfl

theorem enqueueNext_g (w : WfSpec) (splits : List String) (st : CompState) (n : String) :
    (enqueueNext w splits st n).g = st.g := by
  unfold enqueueNext
  repeat' (first | split | rfl)

/-- `stepNode` adds the node and then only updates it: what `addTask` establishes and an update of a
    node that keeps its name preserves holds of the result -/
theorem stepNode_induct {P : Graph → Prop} (w : WfSpec) (g : Graph) (t : String) (splits : List String)
    (h0 : P (g.addTask t)) (hu : ∀ g' f, (∀ x : Node, (f x).id = x.id) → P g' → P (g'.updateNode t f)) :
    P (stepNode w g t splits).1 := by
  unfold stepNode
  extract_lets g1 g2 sp g3 g4
  -- the three steps after `addTask`, one at a time: each leaves the graph as it is or updates node `t`
  -- (all at once the cases multiply, and every one carries the whole term)
  have h2 : P g2 := by
    unfold g2
    split
    · split
      · exact hu _ _ (fun _ => rfl) h0
      · exact h0
    · exact h0
  have h3 : P g3 := by
    unfold g3
    split
    · exact h2
    · exact hu _ _ (fun _ => rfl) h2
  show P g4
  unfold g4
  split
  · split
    · exact hu _ _ (fun _ => rfl) h3
    · exact h3
  · exact h3

theorem stepNode_edges (w : WfSpec) (g : Graph) (t : String) (splits : List String) :
    (stepNode w g t splits).1.edges = g.edges :=
  stepNode_induct (P := fun g' => g'.edges = g.edges) w g t splits (Graph.addTask_edges g t)
    fun _ _ _ h => (Graph.updateNode_edges ..).trans h

/-- `addEdge` leaves the graph alone when the triple is there, else appends one edge with the
    next free key of its (source, target) pair -/
theorem addEdge_edges (g : Graph) (t n : String) (cond : Option Expr) (idx : Nat) :
    (addEdge g t n cond idx = g ∧
      ∃ e ∈ g.edges, e.src = t ∧ e.dst = n ∧ e.ref = idx ∧ criteriaEq e.criteria cond = true) ∨
    ((¬ ∃ e ∈ g.edges, e.src = t ∧ e.dst = n ∧ e.ref = idx ∧ criteriaEq e.criteria cond = true) ∧
     (addEdge g t n cond idx).edges = g.edges ++
       [{ src := t, dst := n, key := (g.edges.filter fun e => e.src == t && e.dst == n).length,
          criteria := cond, ref := idx }]) := by
  unfold addEdge
  split
  · next hex =>
    obtain ⟨e, he, h⟩ := List.any_eq_true.mp hex
    simp only [Bool.and_eq_true, beq_iff_eq] at h
    exact Or.inl ⟨rfl, e, he, h.1.1.1, h.1.1.2, h.2, h.1.2⟩
  · next hex =>
    refine Or.inr ⟨?_, by simp only [Graph.addTask_edges]⟩
    rintro ⟨e, he, h1, h2, h3, h4⟩
    exact hex (List.any_eq_true.mpr ⟨e, he, by simp [h1, h2, h3, h4]⟩)

/-- the composed graph's edge list is built from `[]` by `addEdge` alone, each time for a
    transition of the definition that is not the `retry` command: a property of edge lists that
    such an `addEdge` keeps holds of the composed graph -/
theorem compose_edges_induct (w : WfSpec) (P : List Edge → Prop) (h0 : P [])
    (hadd : ∀ (g : Graph) (t : String) (nt : String × Option Expr × Nat), nt ∈ w.nextTasks t → nt.1 ≠ "retry" →
      P g.edges → P (addEdge g t nt.1 nt.2.1 nt.2.2).edges) : P (compose w).edges := by
  have hedge : ∀ t splits (st : CompState) nt, nt ∈ w.nextTasks t → P st.g.edges →
      P (composeEdge w t splits st nt).g.edges := by
    intro t splits st nt hnt h
    unfold composeEdge
    split
    · exact h
    · next hr => exact hadd _ t nt hnt (fun e => hr (beq_iff_eq.mpr e)) (by rw [enqueueNext_g]; exact h)
  have hloop : ∀ fuel (st : CompState), P st.g.edges → P (composeLoop w fuel st).g.edges := by
    intro fuel
    induction fuel with
    | zero => exact fun _ h => h
    | succ n ih =>
      intro st h
      unfold composeLoop
      split
      · exact h
      · exact ih _ (List.foldlRecOn (motive := fun s : CompState => P s.g.edges) _ _ (by rw [stepNode_edges]; exact h)
          fun acc hacc x hx => hedge _ _ acc x hx hacc)
  exact hloop _ _ h0

/-- **C14** (soundness): every edge of the composed graph is a (task, transition, target) triple
    of the definition, with that transition's condition and position; no edge leads to the
    `retry` command (it becomes a retry policy on the task instead) -/
theorem C14_edges_sound (w : WfSpec) : ∀ e ∈ (compose w).edges, EdgeOk w e := by
  apply compose_edges_induct w (fun l => ∀ e ∈ l, EdgeOk w e) (fun e he => nomatch he)
  intro g t nt hnt hr h e he
  rcases addEdge_edges g t nt.1 nt.2.1 nt.2.2 with ⟨h1, _⟩ | ⟨_, h1⟩ <;> rw [h1] at he
  · exact h e he
  · rcases List.mem_append.mp he with he | he
    · exact h e he
    · cases List.mem_singleton.mp he
      exact ⟨hnt, hr⟩

def sameTriple (a b : Edge) : Prop := a.src = b.src ∧ a.dst = b.dst ∧ a.ref = b.ref

def NoDupTriples (l : List Edge) : Prop :=
  l.Pairwise (fun a b => ¬ (sameTriple a b ∧ criteriaEq a.criteria b.criteria = true))

/-- **C14**: the composed graph has at most one edge for each (task, transition, target) triple -/
theorem C14_one_edge_per_triple (w : WfSpec) : NoDupTriples (compose w).edges := by
  apply compose_edges_induct w NoDupTriples List.Pairwise.nil
  intro g t nt _ _ h
  rcases addEdge_edges g t nt.1 nt.2.1 nt.2.2 with ⟨h1, _⟩ | ⟨hnew, h1⟩ <;> rw [h1]
  · exact h
  · refine List.pairwise_append.mpr ⟨h, List.pairwise_singleton _ _, ?_⟩
    intro a ha b hb ⟨⟨h1, h2, h3⟩, h4⟩
    cases List.mem_singleton.mp hb
    exact hnew ⟨a, ha, h1, h2, h3, h4⟩

theorem insEdge_perm (e : Edge) (l : List Edge) : (Graph.insEdge e l).Perm (e :: l) := by
  induction l with
  | nil => exact List.Perm.refl _
  | cons y ys ih =>
    unfold Graph.insEdge
    split
    · exact List.Perm.refl _
    · exact (List.Perm.cons y ih).trans (List.Perm.swap e y ys)

/-- `get_next_transitions` reorders the out-edges of the task -/
theorem nextTransitions_perm (g : Graph) (n : String) :
    (g.nextTransitions n).Perm (g.edges.filter (·.src == n)) := by
  simpa only [Graph.nextTransitions, List.append_nil] using foldl_insert_perm insEdge_perm (g.edges.filter (·.src == n)) []

/-- `get_next_transitions` returns exactly the out-edges of the task -/
theorem C14_next_transitions_exact (g : Graph) (n : String) (x : Edge) :
    x ∈ g.nextTransitions n ↔ x ∈ g.edges ∧ (x.src == n) = true := by
  rw [(nextTransitions_perm g n).mem_iff, List.mem_filter]

end Orq
