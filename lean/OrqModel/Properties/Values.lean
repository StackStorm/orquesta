/-
C16 / C06: values without expressions pass through evaluation unchanged; what a later context
snapshot says about a variable wins over an earlier one; the context function hides internals.
-/
import OrqModel.Model.Values
import OrqModel.Model.Eval

namespace Orq

mutual
  theorem evalVal_plain (hasExpr : String → Bool) (ev : String → Val) (evKey : String → String) :
      ∀ v : Val, plain hasExpr v = true → evalVal hasExpr ev evKey v = v
    | .null, _ | .bool _, _ | .int _, _ => by simp only [evalVal]
    | .str s, h => by
      have : hasExpr s = false := by simpa only [plain, Bool.not_eq_eq_eq_not, Bool.not_true] using h
      simp only [evalVal, this, Bool.false_eq_true, ↓reduceIte]
    | .list xs, h => by
      have := evalList_plain hasExpr ev evKey xs (by simpa only [plain] using h)
      simp only [evalVal, this]
    | .dict kvs, h => by
      have := evalDict_plain hasExpr ev evKey kvs (by simpa only [plain] using h)
      simp only [evalVal, this]
  theorem evalList_plain (hasExpr : String → Bool) (ev : String → Val) (evKey : String → String) :
      ∀ xs : List Val, plainList hasExpr xs = true → evalList hasExpr ev evKey xs = xs
    | [], _ => by simp only [evalList]
    | x :: xs, h => by
      have h' : plain hasExpr x = true ∧ plainList hasExpr xs = true := by simpa only [plainList, Bool.and_eq_true] using h
      simp only [evalList, evalVal_plain hasExpr ev evKey x h'.1, evalList_plain hasExpr ev evKey xs h'.2]
  theorem evalDict_plain (hasExpr : String → Bool) (ev : String → Val) (evKey : String → String) :
      ∀ kvs : List (String × Val), plainDict hasExpr kvs = true → evalDict hasExpr ev evKey kvs = kvs
    | [], _ => by simp only [evalDict]
    | (k, x) :: xs, h => by
      have h' : (hasExpr k = false ∧ plain hasExpr x = true) ∧ plainDict hasExpr xs = true := by
        simpa only [plainDict, Bool.and_eq_true, Bool.not_eq_eq_eq_not, Bool.not_true] using h
      simp [evalDict, h'.1.1, evalVal_plain hasExpr ev evKey x h'.1.2, evalDict_plain hasExpr ev evKey xs h'.2]
end

/-- **C16**: a JSON value none of whose strings (keys included) contains an expression is returned
    by `evaluate` exactly as it is — whatever the expression languages would do -/
theorem C16_evaluate_plain_identity (hasExpr : String → Bool) (ev : String → Val) (evKey : String → String)
    (v : Val) (h : plain hasExpr v = true) : evalVal hasExpr ev evKey v = v :=
  evalVal_plain hasExpr ev evKey v h

/-- non-vacuity: a nested value with number-, boolean- and null-looking strings is plain when the
    delimiters are absent -/
example : plain (fun s => s == "<% x %>") (.dict [("a", .list [.str "1", .str "true", .str "null", .int 5])]) = true := rfl

theorem dlookup_dset_same (d : Val.Dict) (k : String) (v : Val) : Val.dlookup (Val.dset d k v) k = some v := by
  induction d with
  | nil => simp only [Val.dset, Val.dlookup, BEq.rfl, ↓reduceIte]
  | cons x xs ih =>
    unfold Val.dset
    split
    · next h => simp only [Val.dlookup, h, ↓reduceIte]
    · next h => simp [Val.dlookup, h, ih]

theorem dlookup_dset_other (d : Val.Dict) (k k' : String) (v : Val) (hk : k ≠ k') :
    Val.dlookup (Val.dset d k v) k' = Val.dlookup d k' := by
  induction d with
  | nil => simp [Val.dset, Val.dlookup, hk]
  | cons x xs ih =>
    unfold Val.dset
    split
    · next h =>
      have : (x.1 == k') = false := eq_of_beq h ▸ beq_eq_false_iff_ne.mpr hk
      simp only [Val.dlookup, this, Bool.false_eq_true, ↓reduceIte]
    · simp only [Val.dlookup]
      split
      · rfl
      · exact ih

/-- **C16**: writing a value into a context and reading it back yields exactly that value, and
    leaves every other variable alone -/
theorem C16_merge_preserves_values (d : Val.Dict) (k : String) (v : Val) :
    Val.dlookup (Val.dset d k v) k = some v ∧ ∀ k', k ≠ k' → Val.dlookup (Val.dset d k v) k' = Val.dlookup d k' :=
  ⟨dlookup_dset_same d k v, fun k' h => dlookup_dset_other d k k' v h⟩

/-- one step of `merge_dicts`: what key `p.1` with value `p.2` from the right does to the left -/
def mergeStep (fuel : Nat) (acc : Val.Dict) (p : String × Val) : Val.Dict :=
  match fuel with
  | 0 => Val.dset acc p.1 p.2
  | fuel + 1 =>
    match Val.dlookup acc p.1, p.2 with
    | some (.dict l), .dict r => Val.dset acc p.1 (.dict (Val.merge fuel l r))
    | _, _ => Val.dset acc p.1 p.2

theorem merge_eq_fold (fuel : Nat) (left right : Val.Dict) :
    Val.merge fuel left right = right.foldl (mergeStep fuel) left := by
  cases fuel <;> rfl

/-- a value that is not a dict is written as it is -/
theorem mergeStep_of_not_dict (fuel : Nat) (acc : Val.Dict) (k : String) (v : Val) (hv : ∀ d, v ≠ .dict d) :
    mergeStep fuel acc (k, v) = Val.dset acc k v := by
  cases fuel with
  | zero => rfl
  | succ n =>
    dsimp only [mergeStep]
    split
    · exact absurd rfl (hv _)
    · rfl

/-- **C06**: merging a one-variable delta over a context makes that variable read as the delta's
    value when it is not a dict (later wins), whatever the earlier value was -/
theorem C06_merge_later_wins (a : Val.Dict) (k : String) (v : Val) (hv : ∀ d, v ≠ .dict d) :
    Val.dlookup (Val.mergeDicts a [(k, v)]) k = some v := by
  unfold Val.mergeDicts
  rw [merge_eq_fold, List.foldl_cons, List.foldl_nil, mergeStep_of_not_dict _ _ _ _ hv]
  exact dlookup_dset_same a k v

/-- **C16**: the context function never returns a name beginning with a double underscore -/
theorem C16_ctx_hides_internals (x : String) (ec : EvalCtx) (h : x.startsWith "__" = true) :
    fragEval (.ctx x) ec = none := by
  simp only [fragEval, h, ↓reduceIte]

end Orq
