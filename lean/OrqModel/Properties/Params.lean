/-
C20: the comma-separated `do` shorthand.  Model of `[x.strip() for x in s.split(",")]` on
character lists, and the theorem that it inverts joining task names with a comma and any
amount of surrounding blanks.  (The inline `name=value` scanner is a regular expression of the
`re` library: not modelled, see DESIGN; the correspondence check compares shorthand twins.)
-/
namespace Orq

/-- `s.split(",")` -/
def splitComma : List Char → List (List Char)
  | [] => [[]]
  | c :: cs =>
    if c = ',' then [] :: splitComma cs
    else match splitComma cs with
      | [] => [[c]]
      | w :: ws => (c :: w) :: ws

def dropBlanks : List Char → List Char
  | [] => []
  | c :: cs => if c = ' ' then dropBlanks cs else c :: cs

/-- `x.strip()` for blanks -/
def strip (w : List Char) : List Char := (dropBlanks (dropBlanks w).reverse).reverse

/-- a task name as the schema allows it: no comma, no blank, not empty -/
def NameOk (w : List Char) : Prop := w ≠ [] ∧ ∀ c ∈ w, c ≠ ',' ∧ c ≠ ' '

def blanks (n : Nat) : List Char := List.replicate n ' '

/-- names joined by commas, each name `w` padded with `a` blanks before and `b` after -/
def joinPadded : List (List Char × Nat × Nat) → List Char
  | [] => []
  | [(w, a, b)] => blanks a ++ w ++ blanks b
  | (w, a, b) :: rest => blanks a ++ w ++ blanks b ++ [','] ++ joinPadded rest

theorem splitComma_ne_nil (l : List Char) : splitComma l ≠ [] := by
  cases l with
  | nil => exact List.cons_ne_nil _ _
  | cons c cs =>
    unfold splitComma
    split
    · exact List.cons_ne_nil _ _
    · split <;> exact List.cons_ne_nil _ _

theorem splitComma_nocomma (w : List Char) (h : ∀ c ∈ w, c ≠ ',') : splitComma w = [w] := by
  induction w with
  | nil => rfl
  | cons c cs ih =>
    have hc : c ≠ ',' := h c List.mem_cons_self
    have := ih (fun x hx => h x (List.mem_cons_of_mem _ hx))
    simp [splitComma, hc, this]

theorem splitComma_append_comma (w rest : List Char) (h : ∀ c ∈ w, c ≠ ',') :
    splitComma (w ++ ',' :: rest) = w :: splitComma rest := by
  induction w with
  | nil => simp [splitComma]
  | cons c cs ih =>
    have hc : c ≠ ',' := h c List.mem_cons_self
    have := ih (fun x hx => h x (List.mem_cons_of_mem _ hx))
    simp [splitComma, hc, this]

theorem dropBlanks_blanks_append (n : Nat) (w : List Char) : dropBlanks (blanks n ++ w) = dropBlanks w := by
  induction n with
  | zero => rfl
  | succ k ih => simp [blanks, List.replicate_succ, dropBlanks] at ih ⊢; exact ih

theorem dropBlanks_name (w : List Char) (h : NameOk w) (rest : List Char) : dropBlanks (w ++ rest) = w ++ rest := by
  obtain ⟨hne, hc⟩ := h
  cases w with
  | nil => exact absurd rfl hne
  | cons c cs =>
    have : c ≠ ' ' := (hc c List.mem_cons_self).2
    simp [dropBlanks, this]

theorem reverse_nameOk (w : List Char) (h : NameOk w) : NameOk w.reverse :=
  ⟨mt List.reverse_eq_nil_iff.mp h.1, fun c hc => h.2 c (List.mem_reverse.mp hc)⟩

theorem strip_padded (w : List Char) (a b : Nat) (h : NameOk w) : strip (blanks a ++ w ++ blanks b) = w := by
  unfold strip
  rw [List.append_assoc, dropBlanks_blanks_append, dropBlanks_name w h]
  have hrev : (w ++ blanks b).reverse = blanks b ++ w.reverse := by
    simp [blanks]
  rw [hrev, dropBlanks_blanks_append, ← List.append_nil w.reverse, dropBlanks_name _ (reverse_nameOk w h)]
  simp

theorem padded_nocomma (w : List Char) (a b : Nat) (h : NameOk w) : ∀ c ∈ blanks a ++ w ++ blanks b, c ≠ ',' := by
  intro c hc
  simp only [List.mem_append, blanks, List.mem_replicate] at hc
  rcases hc with (hc | hc) | hc
  · rw [hc.2]; decide
  · exact (h.2 c hc).1
  · rw [hc.2]; decide

/-- **C20**: splitting a comma-separated `do` string — with any number of blanks around each
    name — yields exactly the list of names, so `do: a, b` means `do: [a, b]` -/
theorem C20_do_split (names : List (List Char × Nat × Nat)) (hne : names ≠ [])
    (hok : ∀ p ∈ names, NameOk p.1) :
    (splitComma (joinPadded names)).map strip = names.map (·.1) := by
  induction names with
  | nil => exact absurd rfl hne
  | cons p ps ih =>
    obtain ⟨w, a, b⟩ := p
    have hw : NameOk w := hok (w, a, b) List.mem_cons_self
    cases ps with
    | nil =>
      simp only [joinPadded, List.map_cons, List.map_nil]
      rw [splitComma_nocomma _ (padded_nocomma w a b hw)]
      simp only [List.map_cons, List.map_nil, strip_padded w a b hw]
    | cons q qs =>
      have ih' := ih (List.cons_ne_nil _ _) (fun x hx => hok x (List.mem_cons_of_mem _ hx))
      simp only [joinPadded, List.map_cons]
      rw [List.append_assoc (blanks a ++ w ++ blanks b) [','] _, List.singleton_append,
        splitComma_append_comma _ _ (padded_nocomma w a b hw)]
      simp only [List.map_cons, strip_padded w a b hw]
      rw [ih']
      rfl

/-- non-vacuity: the hypothesis of `C20_do_split` is met by an ordinary task name -/
example : NameOk "task1".toList := ⟨by decide, by decide⟩

end Orq
