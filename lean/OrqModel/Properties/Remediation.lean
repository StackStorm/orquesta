/-
C04: the remediation flag.  A failed workflow offers only staged entries flagged run-on-fail
(`C04_failed_offers_only_run_on_fail`); the transition loop raises the flag only when a `fail`
command sits on a transition whose condition held for the completed task.
-/
import OrqModel.Proofs.ManualFail
import OrqModel.Proofs.Footprint

namespace Orq

variable (E : Evaluator)

theorem makeTaskContext_ok {k : TaskKey} {idx : Nat} {res : Val} {c c' : Cond} {ec : EvalCtx}
    (h : makeTaskContext k idx res c = (.ok ec, c')) : c' = c :=
  (((makeTaskContext_rel (P := .eq) k idx res).run c).trans (congrArg Prod.snd h)).symm

/-- **C04**: the transition loop of a completed task reports a fired fail command (the flag that
    marks the tasks staged beside it as clean-up a failed workflow may still offer) only if one of
    the task's outbound transitions leads to `fail` and its condition evaluated true on the task's
    context -/
theorem C04_remediation_needs_fired_fail (k : TaskKey) (idx : Nat) (ts : TaskSpec) (ev : Event)
    (c c' : Cond) (acc : TransAcc) (h : evalTransitions E k idx ts ev c = (.ok acc, c'))
    (hm : acc.manualFail = true) :
    ∃ ec, makeTaskContext k idx (taskResult ts ev) c = (.ok ec, c) ∧
      ∃ e ∈ c.graph.nextTransitions k.1, e.dst = "fail" ∧ transCriteria E e ec = some true := by
  unfold evalTransitions at h
  obtain ⟨ec, c1, h1, g1⟩ := M.bind_ok h
  have hc1 := makeTaskContext_ok h1
  subst hc1
  refine ⟨ec, h1, ?_⟩
  obtain ⟨c0, c2, h2, g2⟩ := M.bind_ok g1
  obtain ⟨rfl, rfl⟩ := get_ok h2
  obtain ⟨_, c3, _, g3⟩ := M.bind_ok g2
  obtain ⟨acc1, c4, h4, g4⟩ := M.bind_ok g3
  obtain ⟨_, c5, _, g5⟩ := M.bind_ok g4
  obtain ⟨rfl, _⟩ := pure_ok g5
  rcases (foldTrans_mf E k idx ec _ _).run _ _ _ h4 hm with h5 | h5
  · cases h5
  · exact h5

end Orq
