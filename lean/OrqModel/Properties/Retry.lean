/-
C13, along every history: the retry tally of every task record stays within the count of its
retry policy, so a record is re-staged for at most `count` further attempts.
-/
import OrqModel.Proofs.Reach

namespace Orq

variable (E : Evaluator)

/-- `update_task_state` keeps the tally bound, provided the retry event it is entered with comes for
    a record on which attempts remain -/
theorem updateTaskStateAux_inv13 (fuel : Nat) (k : TaskKey) (ev : Event) (c : Cond) (hinv : Inv13 c)
    (hpre : Pre13 k ev c) : Inv13 (updateTaskStateAux E fuel k ev c).2 :=
  ((updateTaskStateAux_sp (c0 := c) E fuel k ev c hpre.licence).run ⟨False.elim, False.elim, False.elim⟩).inv
    (fun _ _ hg h => hg.inv13 trivial h) hinv

/-- **C13**: along every history of API calls (status requests, next-task queries, action and item
    reports in any order and with any outcomes, output rendering, reruns), for every definition,
    input and evaluator, the retry tally of every task record is at most the policy's count: the
    record is re-staged for at most `count` attempts after the first. -/
theorem C13_tally_bounded (spec : WfSpec) (parentCtx inputs : Val.Dict) (ops : List Op)
    (hops : ∀ op ∈ ops, op.notRetryEvent) :
    ∀ r ∈ (runOps E ops (init E spec parentCtx inputs)).st.sequence, ∀ rs n,
      r.retry = some rs → rs.count = .val (.int n) → (rs.tally : Int) ≤ max n 0 :=
  (history_keeps E .licence (I := Inv13) (fun _ _ _ hg _ _ h => hg.inv13 trivial h)
    spec parentCtx inputs (fun _ h => by cases h) ops fun _ => hops).main

/-- the hypothesis of `C13_tally_bounded` is what every provider history satisfies -/
example : ∀ op ∈ [Op.req .running, .next, .report ("t", 0) (.action .failed .null),
    .report ("t", 0) (.item 1 .succeeded .null none), .render, .rerun []], op.notRetryEvent := by
  intro op h
  simp only [List.mem_cons, List.not_mem_nil, or_false] at h
  rcases h with rfl | rfl | rfl | rfl | rfl | rfl <;> trivial

/-- the same for one call: `update_task_state` keeps the bound provided the retry event it is entered
    with (only the engine itself does that) carries a record on which attempts remain -/
theorem C13_update_keeps_bound (k : TaskKey) (ev : Event) (c : Cond) (h : Inv13 c) (hpre : Pre13 k ev c) :
    Inv13 (updateTaskState E k ev c).2 :=
  updateTaskStateAux_inv13 E 3 k ev c h hpre

/-- **C13/C18**: whatever the event (action report, item report, engine command), the task machine
    moves a record into `retrying` only on the engine's retry event, and only from `succeeded` or
    `failed`: no provider report reopens an attempt -/
theorem C13_retrying_only_by_retry_event (c : Cond) (r : Rec) (ev : Event)
    (h : tkEventStep c r ev = .ok (.ok .retrying)) (hold : r.status.getD .unset ≠ .retrying) :
    ev = .engine .retry_ ∧ (r.status = some .succeeded ∨ r.status = some .failed) :=
  tkEventStep_enter c r ev h hold

/-- the retry event is issued by `update_task_state` only after `_evaluate_task_retry` said yes on
    the record it is about to reopen: the decision phase returning `true` leaves a record on which
    attempts remain -/
theorem C13_retry_event_licensed (k : TaskKey) (idx : Nat) (ts : TaskSpec) (os ns : Status) (ev : Event)
    (c c' : Cond) (h : completedRetryDecision E k idx ts os ns ev c = (.ok true, c')) : CanBump c' idx :=
  (completedRetryDecision_yes E k idx ts os ns ev c c' h).1

/-- a record on which attempts remain (count 2, one retry so far) -/
example : CanBumpRec ({ (default : Rec) with retry := some ⟨none, .val (.int 2), .none_, 1⟩ }) := by
  rintro _ _ ⟨⟩ ⟨⟩
  decide

/-- **C13/C18**: a report that leaves the status of a completed record as it was — a late or duplicate
    completion report — never reopens it: the decision phase asks for a retry only when the event
    changed the record's status (so a record whose transitions have been decided is not retried) -/
theorem C13_no_retry_without_status_change (k : TaskKey) (idx : Nat) (ts : TaskSpec) (os ns : Status)
    (ev : Event) (c c' : Cond) (h : completedRetryDecision E k idx ts os ns ev c = (.ok true, c')) : ns ≠ os :=
  (completedRetryDecision_yes E k idx ts os ns ev c c' h).2

/-- **C13**: re-staging a record that has just become `retrying` bumps its tally by exactly one
    and stages exactly one ready entry for the task, carrying the record's context list and
    predecessors and the bumped retry state; a record that was already `retrying`, or is not
    `retrying`, is left alone and nothing is staged (one re-offer per bump of the tally) -/
theorem C13_restage_bumps_once (k : TaskKey) (idx : Nat) (old : Status) (c : Cond) (r : Rec) (rs : RetryState)
    (hr : c.st.sequence[idx]? = some r) (hrs : r.retry = some rs) :
    (r.status == some .retrying && old != .retrying) = true →
      (restageRetry k idx old c).2.st.sequence[idx]? = some { r with retry := some { rs with tally := rs.tally + 1 } } ∧
      ∃ l, (restageRetry k idx old c).2.st.staged = l ++
        [({ id := k.1, route := k.2, ctxsIn := if r.ctxsIn.isEmpty then [0] else r.ctxsIn, prev := r.prev, ready := true,
            retry := some { rs with tally := rs.tally + 1 } } : Staged)] := by
  intro hcond
  unfold restageRetry
  simp only [bind, M.bind', M.get, liftOpt, hr, pure, M.pure', hcond, if_true, hrs, M.modifySt, M.modify]
  constructor
  · show (WState.addStaged _ _).sequence[idx]? = _
    simp only [WState.addStaged_sequence, WState.removeStaged_sequence]
    rw [WState.updateRec_getElem?_self, hr]
    rfl
  · exact ⟨_, rfl⟩

theorem C13_no_restage_otherwise (k : TaskKey) (idx : Nat) (old : Status) (c : Cond) (r : Rec)
    (hr : c.st.sequence[idx]? = some r) (hcond : (r.status == some .retrying && old != .retrying) = false) :
    (restageRetry k idx old c).2 = c := by
  unfold restageRetry
  simp only [bind, M.bind', M.get, liftOpt, hr, pure, M.pure', hcond]
  rfl

end Orq
