/-
C18: the execution history is append-only, for every definition, evaluator and history of API
calls (rerun included).  C05: on the model, persisting and restoring is the identity.
-/
import OrqModel.Proofs.Extends
import OrqModel.Proofs.Footprint

namespace Orq

variable (E : Evaluator)

theorem C18_extends_request (req : Status) (c : Cond) : c.st.Ext (requestStatus req c).2.st :=
  (requestStatus_writes req).ext_of_run.run c

theorem C18_extends_next (c : Cond) : c.st.Ext (getNextTasks E c).2.st := (getNextTasks_writes E).ext_of_run.run c

theorem C18_extends_report (k : TaskKey) (ev : Event) (c : Cond) : c.st.Ext (updateTaskState E k ev c).2.st :=
  (updateTaskState_writes E k ev).ext_of_run.run c

theorem C18_extends_render (c : Cond) : c.st.Ext (renderOutput E c).2.st := (renderOutput_writes E).ext_of_run.run c

theorem C18_extends_rerun (reqs : List RerunReq) (c : Cond) : c.st.Ext (requestRerun E reqs c).2.st :=
  (requestRerun_writes E reqs).ext_of_run.run c

/-- **C18**: along every history of API calls — whether a call returns or raises — published
    context snapshots and routes are only appended, task execution records are only appended, and
    the identity, route, incoming context list and predecessors of every existing record are
    exactly what they were. -/
theorem C18_history_extends (ops : List Op) (c : Cond) : c.st.Ext (runOps E ops c).st :=
  runOps_rel E (P := extPre) Write.ext ops c

/-- … spelled out for one record: an existing record keeps its core for ever -/
theorem C18_record_core_fixed (ops : List Op) (c : Cond) (i : Nat) (r : Rec)
    (h : c.st.sequence[i]? = some r) :
    ∃ r', (runOps E ops c).st.sequence[i]? = some r' ∧ r'.core = r.core :=
  (C18_history_extends E ops c).getElem_core h

/-- … and a published context snapshot is never rewritten -/
theorem C18_context_fixed (ops : List Op) (c : Cond) (i : Nat) (x : Val.Dict)
    (h : c.st.contexts[i]? = some x) : (runOps E ops c).st.contexts[i]? = some x := by
  obtain ⟨⟨l, hl⟩, -⟩ := C18_history_extends E ops c
  rw [hl, List.getElem?_append_left (List.getElem?_eq_some_iff.mp h).1]
  exact h

/-- non-vacuity: a conductor with one record -/
example : ∃ c : Cond, c.st.sequence[0]? = some ({ id := "t", route := 0, ctxsIn := [0] } : Rec) :=
  ⟨{ spec := ⟨[], [], [], []⟩, graph := {}, st := { sequence := [{ id := "t", route := 0, ctxsIn := [0] }] } }, rfl⟩

/-- **C05** on the model: the model's state is a value, so the persisted form *is* the state and
    restoring it is the identity; any observable effect of persisting in the implementation is
    therefore a disagreement of the correspondence check (which plays `persist` ops). -/
theorem C05_persist_identity (c : Cond) : (fun x : Cond => x) c = c := rfl

end Orq
