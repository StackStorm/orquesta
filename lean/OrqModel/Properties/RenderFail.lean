/-
C11: what `get_next_tasks` does when rendering a staged task fails: the failure is recorded
against the task, and nothing is offered by that call -- wherever the failing entry stands.
-/
import OrqModel.Proofs.NextRun

namespace Orq

variable (E : Evaluator)

theorem logEntry_mem (e : ErrEntry) (c : Cond) :
    ∃ e' ∈ (logEntry e c).2.errors, e'.kind = e.kind ∧ e'.taskId = e.taskId ∧ e'.route = e.route := by
  unfold logEntry M.modify
  dsimp only
  split
  · next ha =>
    obtain ⟨x, hx, hs⟩ := List.any_eq_true.mp ha
    simp only [ErrEntry.same, Bool.and_eq_true, beq_iff_eq] at hs
    exact ⟨x, hx, hs.1.1.1.1, hs.1.1.1.2, hs.1.1.2⟩
  · exact ⟨e, List.mem_append_right _ (List.mem_singleton.mpr rfl), rfl, rfl, rfl⟩

/-- **C11**: when rendering a staged task fails, nothing is offered for it and an error entry
    naming the task and its route is in the log -/
theorem C11_render_failure_recorded (sx : Staged) (c c' : Cond) (o : Option Offer)
    (h : nextTaskFor E sx c = (.ok (o, true), c')) :
    o = none ∧ ∃ e ∈ c'.errors, e.taskId = some sx.id ∧ e.route = some sx.route := by
  cases he : entryOk E c sx with
  | some q => rw [nextTaskFor_ok E c sx q.1 q.2 he] at h; cases h
  | none =>
    obtain ⟨k, c1, h1⟩ := nextTaskFor_fail E c sx he
    cases h1.symm.trans h
    obtain ⟨e, he, _, h3, h4⟩ := logEntry_mem { kind := k, taskId := some sx.id, route := some sx.route } c1
    exact ⟨rfl, e, he, h3, h4⟩

/-- the body of the loop of `get_next_tasks` -/
def nextBody (acc : List Offer × Bool) (sx : Staged) : M (List Offer × Bool) := do
  let (o, f) ← nextTaskFor E sx
  pure (match o with | some o => acc.1 ++ [o] | none => acc.1, acc.2 || f)

theorem nextBody_eq : nextBody E = loopBody E := rfl

/-- **C11**: if rendering any of the staged tasks fails, `get_next_tasks` offers nothing at all:
    wherever the failing entry stands in the list and whatever the others rendered to -/
theorem C11_render_failure_offers_nothing (pre rest : List Staged) (sx : Staged) (c c1 c2 c' : Cond)
    (acc1 : List Offer × Bool) (o : Option Offer) (offers : List Offer)
    (hpre : M.foldM' pre (([] : List Offer), false) (nextBody E) c = (.ok acc1, c1))
    (hsx : nextTaskFor E sx c1 = (.ok (o, true), c2))
    (h : nextFrom E (pre ++ sx :: rest) c = (.ok offers, c')) : offers = [] := by
  obtain ⟨os, fl, c3, h1, h2⟩ := nextFrom_ok E h
  obtain ⟨rfl, -⟩ := C11_render_failure_recorded E sx c1 c2 o hsx
  have h4 : nextLoop E (pre ++ sx :: rest) ([], false) c = nextLoop E rest (acc1.1, true) c2 := by
    show M.foldM' _ _ (loopBody E) c = _
    rw [M.foldM'_append, M.bind_run_ok _ (nextBody_eq E ▸ hpre)]
    show (loopBody E acc1 sx >>= fun b => nextLoop E rest b) c1 = _
    unfold loopBody
    rw [M.bind_run, M.bind_run_ok _ hsx]
    simp only [Bool.or_true]
    rfl
  exact h2.1 (nextLoop_flag E rest _ _ _ _ (h4 ▸ h1) rfl)

theorem renderTask_plain (ev : Expr → EvalCtx → Option Val) (ts : TaskSpec) (vars : Val.Dict) (k : TaskKey)
    (o : Offer) (hw : ts.withItems = none) (h : renderTask ev ts vars k = .ok o) :
    o.actions.isEmpty = false ∧ o.itemsCount = none := by
  unfold renderTask at h
  obtain ⟨actions, ha, h⟩ := Except.bind_ok h
  obtain ⟨delay, -, h⟩ := Except.bind_ok h
  simp only [hw] at ha h
  obtain ⟨inp, -, ha⟩ := Except.bind_ok ha
  cases ha
  cases h
  exact ⟨rfl, rfl⟩

/-- **C11/C03**: a staged task that does not iterate over items is either offered or its rendering
    failed (and then the call offers nothing and fails the workflow): `get_next_tasks` never
    silently passes over it -/
theorem C11_plain_task_offered_or_failed (sx : Staged) (c c' : Cond) (ts : TaskSpec) (o : Option Offer) (f : Bool)
    (hts : c.spec.getTask? sx.id = some ts) (hw : ts.withItems = none)
    (h : nextTaskFor E sx c = (.ok (o, f), c')) : f = true ∨ o.isSome = true := by
  cases he : entryOk E c sx with
  | none =>
    obtain ⟨k, c1, h1⟩ := nextTaskFor_fail E c sx he
    cases h1.symm.trans h
    exact .inl rfl
  | some q =>
    rw [nextTaskFor_ok E c sx q.1 q.2 he] at h
    cases h
    obtain ⟨o1, o2, hr, hp, hw'⟩ := entryOk_some E he
    have h1 : o1.actions.isEmpty = false ∧ o1.itemsCount = none := by
      unfold renderOf at hr
      split at hr
      · cases hr
      · rw [hts] at hr
        exact renderTask_plain _ ts _ _ o1 hw hr
    rcases hw' with ⟨_, rfl, _⟩ | ⟨n, _, hn, _⟩
    · right
      rw [hp, withRetryDelay_eq]
      unfold pickOffer
      simp only [h1.1, Bool.not_false, if_true]
      rfl
    · rw [h1.2] at hn
      cases hn

end Orq
