/-
C01 along every history: whatever the conductor offers comes from a staged entry all of whose
listed predecessors are completed task records with decided transitions.
-/
import OrqModel.Proofs.Reach
import OrqModel.Properties.Next

namespace Orq

variable (E : Evaluator)

/-- **C01**: along every history (any definition, inputs, evaluator, order and outcome of reports,
    control requests, reruns), every predecessor listed by a staged entry or by a task record is a
    completed record whose transitions have been decided -/
theorem C01_predecessors_completed_and_decided (spec : WfSpec) (parentCtx inputs : Val.Dict) (ops : List Op)
    (hops : ∀ op ∈ ops, op.notRetryEvent) :
    Just (runOps E ops (init E spec parentCtx inputs)) :=
  (history_keeps E .all (fun _ _ _ hg _ _ hj => hg.just trivial hj) spec parentCtx inputs
    ⟨fun _ h => (by cases h), fun _ h => (by cases h)⟩ ops fun _ => hops).main

/-- **C01**: every task the conductor offers, at any point of any history, is a ready staged entry
    each of whose listed predecessors is a completed task record with decided transitions (a start
    task, a retried or a rerun task being the entries that list none or inherit theirs) -/
theorem C01_offers_have_completed_predecessors (spec : WfSpec) (parentCtx inputs : Val.Dict) (ops : List Op)
    (hops : ∀ op ∈ ops, op.notRetryEvent) (offers : List Offer) (c' : Cond)
    (h : getNextTasks E (runOps E ops (init E spec parentCtx inputs)) = (.ok offers, c')) :
    ∀ o ∈ offers, ∃ sx ∈ (runOps E ops (init E spec parentCtx inputs)).st.staged,
      sx.id = o.id ∧ sx.route = o.route ∧ sx.ready = true ∧
      ∀ p ∈ sx.prev, ∃ q, (runOps E ops (init E spec parentCtx inputs)).st.sequence[p.2]? = some q ∧
        (∃ s, q.status = some s ∧ s.isCompleted = true) ∧ q.next ≠ [] := by
  intro o ho
  obtain ⟨sx, hmem, h1, h2, hready, -⟩ := offer_entry E _ offers c' h o ho
  exact ⟨sx, hmem, h1, h2, hready, (C01_predecessors_completed_and_decided E spec parentCtx inputs ops hops).staged sx hmem⟩

end Orq
