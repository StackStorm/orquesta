/-
C18 / C13 along every history: a record whose outbound transitions have been decided is completed,
keeps its status for ever, and is never retried.
-/
import OrqModel.Proofs.Reach

namespace Orq

variable (E : Evaluator)

/-- Across every further history of a provider, completed and decided records keep their status and
    decided records keep their decisions.  A relation to the state the history starts in is not an
    instance of `runOps_keeps`: the ghost `c0` of `Guard.nk` is the start of the current call, so the
    relation is composed call by call. -/
theorem runOps_frozen (ops : List Op) (hops : ∀ op ∈ ops, op.notRetryEvent) (c : Cond) (hi : Inv0 c) :
    DecStepW c (runOps E ops c) ∧ NK c (runOps E ops c) := by
  induction ops generalizing c with
  | nil => exact ⟨DecStepW.refl c, NK.refl c⟩
  | cons op ops ih =>
    have h1 := (runOp_guarded (a := .all) E op c (fun _ => hi.tk) (fun _ => hi) fun _ => hops op List.mem_cons_self).kept
      (I := fun c' => DecStepW c c' ∧ NK c c') (fun _ _ hg _ _ h => ⟨h.1.trans (hg.decStepW trivial), hg.nk trivial h.2⟩)
      ⟨fun _ => hi.tk, fun _ => hi, DecStepW.refl c, NK.refl c⟩
    obtain ⟨h2, h3⟩ := ih (fun o ho => hops o (List.mem_cons_of_mem _ ho)) _ (h1.inv trivial)
    exact ⟨h1.main.1.trans h2, h1.main.2.trans h3⟩

/-- **C18/C13**: along every history (any definition, inputs, evaluator; status requests, queries,
    action and item reports in any order with any outcomes, late and duplicate reports, output
    rendering, reruns), a task record for which a transition decision has been recorded is in a
    completed status -/
theorem C18_decided_records_completed (spec : WfSpec) (parentCtx inputs : Val.Dict) (ops : List Op)
    (hops : ∀ op ∈ ops, op.notRetryEvent) (i : Nat) (r : Rec)
    (hr : (runOps E ops (init E spec parentCtx inputs)).st.sequence[i]? = some r) (hn : r.next ≠ []) :
    ∃ s, r.status = some s ∧ s.isCompleted = true :=
  (runOps_inv0 E spec parentCtx inputs ops hops).dec i r hr hn

/-- **C18**: once a decision has been recorded for a task record, whatever happens afterwards
    (`ops2`, any further history) the record is still there, still decided, and its status is what
    it was: a finished, decided execution is never reopened -/
theorem C18_decided_records_frozen (spec : WfSpec) (parentCtx inputs : Val.Dict) (ops1 ops2 : List Op)
    (h1 : ∀ op ∈ ops1, op.notRetryEvent) (h2 : ∀ op ∈ ops2, op.notRetryEvent) (i : Nat) (r : Rec)
    (hr : (runOps E ops1 (init E spec parentCtx inputs)).st.sequence[i]? = some r) (hn : r.next ≠ []) :
    ∃ r', (runOps E ops2 (runOps E ops1 (init E spec parentCtx inputs))).st.sequence[i]? = some r' ∧
      r'.status = r.status ∧ r'.next ≠ [] := by
  have hi := runOps_inv0 E spec parentCtx inputs ops1 h1
  exact (runOps_frozen E ops2 h2 _ hi).1.frozen hi.dec i r hr hn

/-- **C13**: an attempt that is being retried has no decided transition: no outbound transition,
    publish or failure handling fired for it -/
theorem C13_retried_attempt_undecided (spec : WfSpec) (parentCtx inputs : Val.Dict) (ops : List Op)
    (hops : ∀ op ∈ ops, op.notRetryEvent) (i : Nat) (r : Rec)
    (hr : (runOps E ops (init E spec parentCtx inputs)).st.sequence[i]? = some r)
    (hs : r.status = some .retrying) : r.next = [] := by
  refine Decidable.byContradiction fun hn => ?_
  obtain ⟨s, hs', hc⟩ := C18_decided_records_completed E spec parentCtx inputs ops hops i r hr hn
  rw [hs] at hs'
  cases hs'
  cases hc

/-- **C18**: the decisions recorded for a task record never change: once an API call has returned
    (or raised) with decisions recorded for a record, whatever history follows — reports, late and
    duplicate reports, control requests, queries, output rendering, reruns — the record's list of
    decisions is exactly what it was, and so is its status -/
theorem C18_decisions_never_change (spec : WfSpec) (parentCtx inputs : Val.Dict) (ops1 ops2 : List Op)
    (h1 : ∀ op ∈ ops1, op.notRetryEvent) (h2 : ∀ op ∈ ops2, op.notRetryEvent) (i : Nat) (r : Rec)
    (hr : (runOps E ops1 (init E spec parentCtx inputs)).st.sequence[i]? = some r) (hn : r.next ≠ []) :
    ∃ r', (runOps E ops2 (runOps E ops1 (init E spec parentCtx inputs))).st.sequence[i]? = some r' ∧
      r'.next = r.next ∧ r'.status = r.status := by
  obtain ⟨r', hr', hnext⟩ := (runOps_frozen E ops2 h2 _ (runOps_inv0 E spec parentCtx inputs ops1 h1)).2.keep i r hr hn
  obtain ⟨r'', hr'', hstat, _⟩ := C18_decided_records_frozen E spec parentCtx inputs ops1 ops2 h1 h2 i r hr hn
  rw [hr'] at hr''
  cases hr''
  exact ⟨r', hr', hnext, hstat⟩

end Orq
