/-
C01 along every history, with the decision: every predecessor listed by a staged entry, by an
offer, or by a task record is a completed record of the workflow's history that has recorded
`true` for the transition leading to that very task.
-/
import OrqModel.Properties.Justified

namespace Orq

variable (E : Evaluator)

/-- **C01**: along every history (any definition, inputs, evaluator; any order and outcome of
    reports, control requests, reruns), every predecessor `((source, key), i)` listed by a staged
    entry or by a task record of task `t` points at a record `i` that has recorded the decision
    `true` for the transition `(t, key)` — the transition was evaluated, and its condition held. -/
theorem C01_predecessors_decided_true (spec : WfSpec) (parentCtx inputs : Val.Dict) (ops : List Op)
    (hops : ∀ op ∈ ops, op.notRetryEvent) :
    JT (runOps E ops (init E spec parentCtx inputs)) :=
  (runOps_inv0 E spec parentCtx inputs ops hops).jt

/-- … and the task-key map of every reachable state points at records of the right task -/
theorem C01_task_map_sound (spec : WfSpec) (parentCtx inputs : Val.Dict) (ops : List Op)
    (hops : ∀ op ∈ ops, op.notRetryEvent) (k : TaskKey) (i : Nat)
    (h : (runOps E ops (init E spec parentCtx inputs)).st.taskIdx? k = some i) :
    ∃ r, (runOps E ops (init E spec parentCtx inputs)).st.sequence[i]? = some r ∧ r.id = k.1 :=
  (runOps_inv0 E spec parentCtx inputs ops hops).tk.taskIdx h

/-- **C01**, as the property states it: every task the conductor offers, at any point of any
    history, is a ready staged entry, and each predecessor that entry lists is a *completed* task
    record whose transition to the offered task was *evaluated to true* (a start task lists none;
    a retried or rerun task inherits the list of the record it repeats). -/
theorem C01_offers_have_true_transitions (spec : WfSpec) (parentCtx inputs : Val.Dict) (ops : List Op)
    (hops : ∀ op ∈ ops, op.notRetryEvent) (offers : List Offer) (c' : Cond)
    (h : getNextTasks E (runOps E ops (init E spec parentCtx inputs)) = (.ok offers, c')) :
    ∀ o ∈ offers, ∃ sx ∈ (runOps E ops (init E spec parentCtx inputs)).st.staged,
      sx.id = o.id ∧ sx.route = o.route ∧ sx.ready = true ∧
      ∀ p ∈ sx.prev, ∃ q, (runOps E ops (init E spec parentCtx inputs)).st.sequence[p.2]? = some q ∧
        (∃ s, q.status = some s ∧ s.isCompleted = true) ∧ ((o.id, p.1.2), true) ∈ q.next := by
  intro o ho
  obtain ⟨sx, hsx, h1, h2, hready, hprev⟩ :=
    C01_offers_have_completed_predecessors E spec parentCtx inputs ops hops offers c' h o ho
  have hj := C01_predecessors_decided_true E spec parentCtx inputs ops hops
  refine ⟨sx, hsx, h1, h2, hready, ?_⟩
  intro p hp
  obtain ⟨q, hq, hcomp, _⟩ := hprev p hp
  obtain ⟨q', hq', hm⟩ := hj.staged sx hsx p hp
  rw [hq] at hq'
  cases hq'
  exact ⟨q, hq, hcomp, by rw [← h1]; exact hm⟩

/-- non-vacuity: a state in which a staged entry lists a predecessor, and the invariant holds -/
def exampleState : Cond where
  spec := ⟨[], [], [], []⟩
  graph := {}
  st := { sequence := [{ id := "a", route := 0, ctxsIn := [0], status := some .succeeded, next := [(("b", 0), true)] }],
          staged := [{ id := "b", route := 0, ctxsIn := [0], prev := [(("a", 0), 0)], ready := true }] }

example : JT exampleState := by
  refine ⟨fun x hx p hp => ?_, fun r hr => ?_⟩
  · cases List.mem_singleton.mp hx
    cases List.mem_singleton.mp hp
    exact ⟨_, rfl, List.mem_singleton.mpr rfl⟩
  · cases List.mem_singleton.mp hr
    exact PrevT.nil _ _

end Orq
