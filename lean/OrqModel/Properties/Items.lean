/-
C12 (with-items window) and C13 (retry) theorems.  The window is the pure function
`selectItems`, so its properties hold for every item count, concurrency and status vector.
-/
import OrqModel.Proofs.TaskMachine
import OrqModel.Proofs.Monad

namespace Orq

/-- **C12**: with concurrency `k` (a limit below 1 counts as 1) at most `max(k,1) − #active`
    items are offered -/
theorem C12_window_bound {α} (actions : List α) (items : List Status) (k : Int) :
    (selectItems actions items (some k)).length ≤ (max k 1 - (activeCount items : Int)).toNat := by
  unfold selectItems
  simp only [List.length_take]
  have : (if k ≤ 0 then 1 else k) = max k 1 := by split <;> omega
  rw [this]
  exact Nat.min_le_left _ _

/-- … hence offered + active never exceeds the limit (when it was respected so far) -/
theorem C12_window_total {α} (actions : List α) (items : List Status) (k : Int)
    (h : (activeCount items : Int) ≤ max k 1) :
    ((selectItems actions items (some k)).length : Int) + activeCount items ≤ max k 1 := by
  have := C12_window_bound actions items k
  omega

theorem mem_notRun {α} (actions : List α) (items : List Status) (a : α) (h : a ∈ notRun actions items) :
    (a, Status.unset) ∈ actions.zip items := by
  unfold notRun at h
  obtain ⟨⟨a', s⟩, hp, rfl⟩ := List.mem_map.mp h
  have := List.mem_filter.mp hp
  have : s = .unset := eq_of_beq this.2
  subst this
  exact (List.mem_filter.mp hp).1

/-- **C12**: only items whose status is still unset are offered -/
theorem C12_window_unset_only {α} (actions : List α) (items : List Status) (conc : Option Int) :
    ∀ a ∈ selectItems actions items conc, (a, Status.unset) ∈ actions.zip items := by
  intro a ha
  unfold selectItems at ha
  split at ha
  · exact mem_notRun _ _ _ (List.mem_of_mem_take ha)
  · exact mem_notRun _ _ _ ha

theorem notRun_sublist {α} (actions : List α) (items : List Status) :
    (notRun actions items).Sublist actions := by
  unfold notRun
  have h1 : (((actions.zip items).filter fun p => p.2 == Status.unset).map (·.1)).Sublist
      ((actions.zip items).map (·.1)) := List.filter_sublist.map _
  refine h1.trans ?_
  clear h1
  induction actions generalizing items with
  | nil => simp
  | cons a as ih =>
    cases items with
    | nil => simp
    | cons i is =>
      simp only [List.zip_cons_cons, List.map_cons]
      exact (ih is).cons_cons a

/-- **C12**: items are offered in index order: the offered actions are a sublist of the rendered
    action list (which is in item order) -/
theorem C12_window_in_order {α} (actions : List α) (items : List Status) (conc : Option Int) :
    (selectItems actions items conc).Sublist actions := by
  unfold selectItems
  split
  · exact (List.take_sublist _ _).trans (notRun_sublist _ _)
  · exact notRun_sublist _ _

/-- **C12**: without a concurrency limit every not-yet-run item is offered at once -/
theorem C12_no_concurrency_all_unset {α} (actions : List α) (items : List Status) :
    selectItems actions items none = notRun actions items := rfl

/-- **C12**: an empty item list renders an offer with no action and an item count of zero -- the
    form `get_next_tasks` hands out so that the provider completes the task at once -/
theorem C12_empty_items_offer (ev : Expr → EvalCtx → Option Val) (ts : TaskSpec) (vars : Val.Dict)
    (k : TaskKey) (its : ItemsSpec) (o : Offer) (h : ts.withItems = some its)
    (hl : ev its.items { vars := vars, curTask := some k } = some (.list []))
    (ho : renderTask ev ts vars k = .ok o) : o.actions = [] ∧ o.itemsCount = some 0 := by
  unfold renderTask at ho
  obtain ⟨actions, ha, ho⟩ := Except.bind_ok ho
  obtain ⟨delay, -, ho⟩ := Except.bind_ok ho
  simp only [h, hl, optErr] at ha ho
  cases ha
  obtain ⟨conc, -, ho⟩ := Except.bind_ok ho
  cases ho
  exact ⟨rfl, rfl⟩

/-- **C12**: the window of an offer without actions has no action and keeps the item count -/
theorem C12_empty_window (o o' : Offer) (items : List Status) (ha : o.actions = [])
    (h : windowOf o items = .ok o') : o'.actions = [] ∧ o'.itemsCount = o.itemsCount := by
  unfold windowOf at h
  split at h <;> cases h <;> simp [selectItems, notRun, ha]

theorem tbl_item_completes (tk ev : Status) (a p c f i : Bool) (s' : Status)
    (h : tkOnItemEvent tk ev a p c f i = .ok s') :
    (!s'.isCompleted || s' == tk ||
      (!a && (s' != .succeeded || (ev == .succeeded && !p && !c && !f && !i)))) = true :=
  (Bool.and_eq_true_iff.mp (StepRes.all?_ok (tbl_item tk ev a p c f i) h)).2

/-- **C12**: the only item event that makes a with-items task `succeeded` is a succeeded item
    while no other item is active, paused, canceled, failed or incomplete -/
theorem C12_item_success_unique : ∀ (tk ev : Status) (a p c f i : Bool),
    tkOnItemEvent tk ev a p c f i = .ok .succeeded → tk ≠ .succeeded →
      ev = .succeeded ∧ a = false ∧ p = false ∧ c = false ∧ f = false ∧ i = false := by
  intro tk ev a p c f i h hne
  have := tbl_item_completes tk ev a p c f i _ h
  simpa [Status.isCompleted, Ne.symm hne, and_assoc, and_left_comm] using this

/-- **C12**: a with-items task never reaches a completed status through an item event while
    another item is still active -/
theorem C12_completed_needs_dormant (tk ev : Status) (p c f i : Bool) (s' : Status)
    (h : tkOnItemEvent tk ev true p c f i = .ok s') (hc : s'.isCompleted = true) : tk.isCompleted = true := by
  have := tbl_item_completes tk ev true p c f i s' h
  simp only [hc, Bool.not_true, Bool.false_and, Bool.or_false, Bool.false_or, beq_iff_eq] at this
  exact this ▸ hc

/-- **C13**: a retry is decided only while attempts remain (`tally < count`) and the condition
    holds: by default the execution abended, otherwise the `when` expression is truthy -/
theorem C13_retry_iff (E : Evaluator) (r : Rec) (ec : EvalCtx) (h : evaluateTaskRetry E r ec = .ok true) :
    ∃ rs n, r.retry = some rs ∧ rs.count = .val (.int n) ∧ (rs.tally : Int) < n ∧
      ((r.status.any Status.isAbended = true ∧ rs.when_ = none) ∨
       ∃ w v, rs.when_ = some w ∧ E.eval w ec = some v ∧ v.truthy = true) := by
  unfold evaluateTaskRetry at h
  split at h
  · cases h
  · next rs hrs =>
    split at h
    · next n hn =>
      refine ⟨rs, n, hrs, hn, ?_⟩
      split at h
      · cases h
      · next hlt =>
        refine ⟨Int.not_le.mp hlt, ?_⟩
        split at h
        · next hc =>
          left
          simp only [Bool.and_eq_true, Option.isNone_iff_eq_none] at hc
          exact hc
        · split at h
          · cases h
          · next w hw =>
            split at h
            · next v hv =>
              right
              refine ⟨w, v, hw, hv, ?_⟩
              injection h
            · cases h
    · cases h

theorem C13_retry_requires_tally_below_count (E : Evaluator) (r : Rec) (ec : EvalCtx)
    (h : evaluateTaskRetry E r ec = .ok true) :
    ∃ rs n, r.retry = some rs ∧ rs.count = .val (.int n) ∧ (rs.tally : Int) < n := by
  obtain ⟨rs, n, h1, h2, h3, _⟩ := C13_retry_iff E r ec h
  exact ⟨rs, n, h1, h2, h3⟩

/-- **C13/C18**: a completed task record is reopened only by a retry request: the `succeeded`,
    `failed` and `canceled` rows of the task machine answer no action report -/
theorem C13_completed_rows (tk ev s' : Status)
    (ht : tk = .succeeded ∨ tk = .failed ∨ tk = .canceled) (h : tkOnActionEvent tk ev = .ok s') : s' = tk :=
  tkMove_completed (tbl_tk_action tk ev s' h) (by rcases ht with rfl | rfl | rfl <;> rfl)

theorem C13_retry_event_reopens : ∀ (tk : Status) (s' : Status),
    (tk = .succeeded ∨ tk = .failed) → tkOnEngineEvent tk .retry_ = .ok s' → s' = .retrying := by
  decide +kernel

/-- **C13/C02** (true since fix D32): the action of a retry that reports requested, scheduled or
    delayed -- what a retry with a delay does -- takes the retrying task to that status, which is an
    active one: the workflow does not mistake the task for finished while its retry is under way -/
theorem tbl_retry_dispatch_is_active :
    tkOnActionEvent .retrying .requested = .ok .requested ∧
    tkOnActionEvent .retrying .scheduled = .ok .scheduled ∧
    tkOnActionEvent .retrying .delayed = .ok .delayed ∧
    Status.isActive .requested = true ∧ Status.isActive .scheduled = true ∧ Status.isActive .delayed = true := by
  decide +kernel

end Orq
